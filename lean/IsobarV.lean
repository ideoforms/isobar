import IsobarV.Sched.Model
import IsobarV.Util.Parse
import IsobarV.Sched.Drv
import IsobarV.Sched.Balance
import IsobarV.Sched.BalanceOps
import IsobarV.Props.C02
import IsobarV.Sched.Onset
import IsobarV.Props.C01
import IsobarV.Sched.FloatTime
import IsobarV.Sched.FloatSum
import IsobarV.Props.C01Float
import IsobarV.Sched.Fields
import IsobarV.Props.C05
import IsobarV.Props.C06
import IsobarV.Props.C07
import IsobarV.Props.C17
import IsobarV.Sched.Multi
import IsobarV.Props.C07Runs
import IsobarV.Props.C17Runs
import IsobarV.Pat.Basic
import IsobarV.Pat.Num
import IsobarV.Generated.Tables
import IsobarV.Tonal.Model
import IsobarV.Tonal.Drv
import IsobarV.Tonal.Lemmas
import IsobarV.Props.C13
import IsobarV.Pat.Core
import IsobarV.Pat.Step
import IsobarV.Pat.Ext
import IsobarV.Pat.Run
import IsobarV.Pat.Drv
import IsobarV.Pat.Lemmas
import IsobarV.Pat.Streams
import IsobarV.Props.C08
import IsobarV.IO.Model
import IsobarV.IO.Drv
import IsobarV.IO.Spec
import IsobarV.IO.Lemmas
import IsobarV.Props.C19
import IsobarV.Pat.ResetOK
import IsobarV.Props.C04
import IsobarV.Notation.Model
import IsobarV.Notation.Drv
import IsobarV.Notation.Lemmas
import IsobarV.Notation.PlayLemmas
import IsobarV.Props.C20
import IsobarV.Midi.Model
import IsobarV.Midi.Drv
import IsobarV.Midi.Spec
import IsobarV.Midi.Lemmas
import IsobarV.Props.C16
import IsobarV.Pat.Sticky
import IsobarV.Props.C09
import IsobarV.Props.C12
import IsobarV.Auto.Model
import IsobarV.Auto.Drv
import IsobarV.Auto.Lemmas
import IsobarV.Props.C18
import IsobarV.Props.C10
import IsobarV.Clock.Model
import IsobarV.Clock.Drv
import IsobarV.Clock.Lemmas
import IsobarV.Props.C14
import IsobarV.Sched.Solo
import IsobarV.Sched.LenInv
import IsobarV.Interp.Model
import IsobarV.Interp.Drv
import IsobarV.Interp.Lemmas
import IsobarV.Props.C15
import IsobarV.Event.Model
import IsobarV.Event.Drv
import IsobarV.Event.Spec
import IsobarV.Event.Lemmas
import IsobarV.Props.C03
import IsobarV.Pat.Cls.Scalar
import IsobarV.Pat.Cls.ScalarLemmas
import IsobarV.Props.C04_Scalar
import IsobarV.Props.C09_Scalar
import IsobarV.Props.C12_Scalar
import IsobarV.Props.C10_Scalar
import IsobarV.Pat.Cls.Seq2
import IsobarV.Pat.Cls.Seq2Lemmas
import IsobarV.Props.C04_Seq2
import IsobarV.Props.C09_Seq2
import IsobarV.Props.C12_Seq2
import IsobarV.Props.C10_Euclid
import IsobarV.Props.C10_Seq2
import IsobarV.Pat.Cls.Seq1
import IsobarV.Pat.Cls.Seq1Lemmas
import IsobarV.Props.C04_Seq1
import IsobarV.Props.C12_Seq1
import IsobarV.Props.C09_Seq1
import IsobarV.Props.C10_Seq1
import IsobarV.Pat.Cls.Chance
import IsobarV.Pat.Cls.ChanceLemmas
import IsobarV.Props.C04_Chance
import IsobarV.Props.C11
import IsobarV.Props.C09_Chance
import IsobarV.Props.C12_Chance
import IsobarV.Static.Model
import IsobarV.Static.Drv
import IsobarV.Pat.Cls.Misc
import IsobarV.Pat.Cls.MiscLemmas
import IsobarV.Props.C04_Misc
import IsobarV.Props.C09_Misc
import IsobarV.Props.C12_Misc
import IsobarV.Props.C10_Misc
import IsobarV.Pat.Cls.Ext2
import IsobarV.Pat.Cls.Ext2Lemmas
import IsobarV.Props.C04_Ext2
import IsobarV.Props.C09_Ext2
import IsobarV.Props.C12_Ext2
import IsobarV.Props.C10_Ext2
import IsobarV.Interp.Restart
import IsobarV.Props.C05Interp
import IsobarV.Props.C02Runs
import IsobarV.Props.C01Runs
import IsobarV.Props.C01All
import IsobarV.Props.C06Runs
import IsobarV.Interp.Mute
import IsobarV.Props.C15Mute
import IsobarV.Props.C12Names
import IsobarV.Props.C10_Metropolis
