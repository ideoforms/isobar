/-
Specification predicates for property C13 and what the proofs need of the model of keys and scales:
`sortInts` sorts, the candidate loop of `nearest_note` finds a minimum, the candidates cover every octave,
and `Scale.get` in terms of `/` and `%`.
-/
import IsobarV.Tonal.Model

namespace IsobarV.Tonal

/-- The weakest condition under which the Python code does not raise: a non-empty scale and a positive
    octave size. -/
def Scale.Valid (s : Scale) : Prop := s.semitones ≠ [] ∧ 0 < s.octave

/-- An ascending scale inside one octave, as every scale of `Scale.dict` is (`C13.builtin_scales_wf`): what
    makes degree → note strictly increasing. -/
def Scale.WF (s : Scale) : Prop :=
  s.semitones ≠ [] ∧ s.semitones.Pairwise (· < ·) ∧ ∀ x ∈ s.semitones, 0 ≤ x ∧ x < s.octave

instance (s : Scale) : Decidable s.WF := by unfold Scale.WF; exact inferInstance
instance (s : Scale) : Decidable s.Valid := by unfold Scale.Valid; exact inferInstance

/-- Independent pitch-class-set specification of key membership: `x` is the tonic plus a semitone of the
    scale plus a whole number of octaves. -/
def InKey (k : Key) (x : Int) : Prop :=
  ∃ s ∈ k.scale.semitones, ∃ m : Int, x = k.tonic + s + k.scale.octave * m

theorem Scale.WF.valid {s : Scale} (h : s.WF) : s.Valid := by
  obtain ⟨a, ha⟩ := List.exists_mem_of_ne_nil _ h.1
  have := h.2.2 a ha
  exact ⟨h.1, by omega⟩

theorem pyDiv_of_pos (a : Int) {b : Int} (h : 0 < b) : pyDiv a b = a / b :=
  Int.fdiv_eq_ediv_of_nonneg a (Int.le_of_lt h)

theorem pyMod_of_pos (a : Int) {b : Int} (h : 0 < b) : pyMod a b = a % b :=
  Int.fmod_eq_emod_of_nonneg a (Int.le_of_lt h)

theorem pyAbs_eq_natAbs (a : Int) : pyAbs a = a.natAbs := by unfold pyAbs; omega

theorem pyAbs_nonneg (a : Int) : 0 ≤ pyAbs a := pyAbs_eq_natAbs a ▸ Int.natCast_nonneg _

theorem pyAbs_le_iff {a b : Int} : pyAbs a ≤ pyAbs b ↔ a.natAbs ≤ b.natAbs := by
  rw [pyAbs_eq_natAbs, pyAbs_eq_natAbs]; exact Int.ofNat_le

theorem pyAbs_le_of_between {a b : Int} (h : 0 ≤ a ∧ a ≤ b ∨ b ≤ a ∧ a ≤ 0) : pyAbs a ≤ pyAbs b := by
  unfold pyAbs; omega

theorem emod_eq_emod_iff_exists {n : Int} (x y : Int) :
    x % n = y % n ↔ ∃ m : Int, x = y + n * m := by
  rw [Int.emod_eq_emod_iff_emod_sub_eq_zero, ← Int.dvd_iff_emod_eq_zero]
  exact exists_congr fun m => by omega

theorem insertSorted_perm (x : Int) (l : List Int) : (insertSorted x l).Perm (x :: l) := by
  induction l with
  | nil => exact .refl _
  | cons a l ih =>
    unfold insertSorted
    split
    · exact .refl _
    · exact (ih.cons a).trans (.swap x a l)

theorem sortInts_perm (l : List Int) : (sortInts l).Perm l := by
  induction l with
  | nil => exact .refl _
  | cons a l ih => exact (insertSorted_perm a _).trans (ih.cons a)

theorem mem_sortInts {y : Int} {l : List Int} : y ∈ sortInts l ↔ y ∈ l := (sortInts_perm l).mem_iff

theorem sorted_insertSorted {x : Int} {l : List Int} (h : l.Pairwise (· ≤ ·)) :
    (insertSorted x l).Pairwise (· ≤ ·) := by
  induction l with
  | nil => exact List.pairwise_singleton _ _
  | cons a l ih =>
    have ha : ∀ b ∈ l, a ≤ b := fun b hb => List.rel_of_pairwise_cons h hb
    unfold insertSorted
    split
    · rename_i hxa
      exact List.pairwise_cons.mpr ⟨List.forall_mem_cons.mpr ⟨hxa, fun b hb => Int.le_trans hxa (ha b hb)⟩, h⟩
    · rename_i hxa
      refine List.pairwise_cons.mpr ⟨fun b hb => ?_, ih h.of_cons⟩
      exact List.forall_mem_cons.mpr ⟨by omega, ha⟩ b ((insertSorted_perm x l).mem_iff.mp hb)

theorem sorted_sortInts (l : List Int) : (sortInts l).Pairwise (· ≤ ·) := by
  induction l with
  | nil => exact .nil
  | cons a l ih => exact sorted_insertSorted ih

theorem headD_least {l : List Int} (d : Int) (h : l.Pairwise (· ≤ ·)) (hne : l ≠ []) :
    l.headD d ∈ l ∧ ∀ x ∈ l, l.headD d ≤ x := by
  cases l with
  | nil => exact absurd rfl hne
  | cons a l =>
    exact ⟨List.mem_cons_self, List.forall_mem_cons.mpr ⟨Int.le_refl a, fun x hx => List.rel_of_pairwise_cons h hx⟩⟩

theorem getLastD_greatest {l : List Int} (d : Int) (h : l.Pairwise (· ≤ ·)) (hne : l ≠ []) :
    l.getLastD d ∈ l ∧ ∀ x ∈ l, x ≤ l.getLastD d := by
  induction l generalizing d with
  | nil => exact absurd rfl hne
  | cons a l ih =>
    rw [List.getLastD_cons]
    cases l with
    | nil => exact ⟨List.mem_cons_self, List.forall_mem_cons.mpr ⟨Int.le_refl a, nofun⟩⟩
    | cons b l =>
      obtain ⟨hm, hle⟩ := ih a h.of_cons (List.cons_ne_nil b l)
      exact ⟨List.mem_cons_of_mem a hm, List.forall_mem_cons.mpr ⟨List.rel_of_pairwise_cons h hm, hle⟩⟩

theorem mem_keySemitones {k : Key} (hN : 0 < k.scale.octave) {p : Int} :
    p ∈ k.semitones ↔ ∃ s ∈ k.scale.semitones, p = (s + k.tonic) % k.scale.octave := by
  unfold Key.semitones
  simp only [mem_sortInts, List.mem_map, pyMod_of_pos _ hN, eq_comm]

theorem keySemitones_range {k : Key} (hN : 0 < k.scale.octave) {p : Int} (hp : p ∈ k.semitones) :
    0 ≤ p ∧ p < k.scale.octave := by
  obtain ⟨s, _, rfl⟩ := (mem_keySemitones hN).mp hp
  exact ⟨Int.emod_nonneg _ (Int.ne_of_gt hN), Int.emod_lt_of_pos _ hN⟩

theorem keySemitones_ne_nil {k : Key} (h : k.scale.semitones ≠ []) : k.semitones ≠ [] := by
  obtain ⟨s, hs⟩ := List.exists_mem_of_ne_nil _ h
  exact List.ne_nil_of_mem (mem_sortInts.mpr (List.mem_map_of_mem hs))

theorem keySemitones_sorted (k : Key) : k.semitones.Pairwise (· ≤ ·) := sorted_sortInts _

theorem contains_iff_mem {k : Key} (hN : 0 < k.scale.octave) (x : Int) :
    k.contains x = true ↔ x % k.scale.octave ∈ k.semitones := by
  unfold Key.contains
  rw [pyMod_of_pos _ hN, List.contains_iff_mem]

theorem contains_congr {k : Key} (hN : 0 < k.scale.octave) {x y : Int}
    (h : x % k.scale.octave = y % k.scale.octave) : k.contains x = k.contains y := by
  unfold Key.contains
  rw [pyMod_of_pos _ hN, pyMod_of_pos _ hN, h]

theorem foldl_nearestStep_some (pitch : Int) (cands : List Int) (b : Best)
    (hb : b.distance = pyAbs (b.semitone - pitch)) :
    ∃ b', cands.foldl (nearestStep pitch) (some b) = some b' ∧ b'.semitone ∈ b.semitone :: cands ∧
      ∀ c ∈ b.semitone :: cands, pyAbs (b'.semitone - pitch) ≤ pyAbs (c - pitch) := by
  induction cands generalizing b with
  | nil => exact ⟨b, rfl, List.mem_cons_self, List.forall_mem_cons.mpr ⟨Int.le_refl _, nofun⟩⟩
  | cons c cs ih =>
    rw [List.foldl_cons]
    by_cases hlt : pyAbs (c - pitch) < b.distance
    · -- `c` is strictly nearer than `b` and takes over; what beats `c` beats `b`
      obtain ⟨b', hf, hm, hmin⟩ := ih ⟨c, pyAbs (c - pitch)⟩ rfl
      have hc := hmin c List.mem_cons_self
      rw [show nearestStep pitch (some b) c = some ⟨c, pyAbs (c - pitch)⟩ from if_pos hlt]
      exact ⟨b', hf, List.mem_cons_of_mem _ hm,
        List.forall_mem_cons.mpr ⟨Int.le_trans hc (Int.le_of_lt (hb ▸ hlt)), hmin⟩⟩
    · obtain ⟨b', hf, hm, hmin⟩ := ih b hb
      have ⟨hbb, hcs⟩ := List.forall_mem_cons.mp hmin
      rw [show nearestStep pitch (some b) c = some b from if_neg hlt]
      exact ⟨b', hf, List.cons_subset_cons _ (List.subset_cons_self c cs) hm, List.forall_mem_cons.mpr
        ⟨hbb, List.forall_mem_cons.mpr ⟨Int.le_trans hbb (hb ▸ Int.not_lt.mp hlt), hcs⟩⟩⟩

theorem foldl_nearestStep_none (pitch : Int) {cands : List Int} (hne : cands ≠ []) :
    ∃ b, cands.foldl (nearestStep pitch) none = some b ∧ b.semitone ∈ cands ∧
      ∀ c ∈ cands, pyAbs (b.semitone - pitch) ≤ pyAbs (c - pitch) := by
  cases cands with
  | nil => exact absurd rfl hne
  | cons c cs => exact foldl_nearestStep_some pitch cs ⟨c, _⟩ rfl

theorem mem_candidates {k : Key} {c : Int} :
    c ∈ k.candidates ↔
      c ∈ k.semitones ∨ c = k.semitones.headD 0 + k.scale.octave ∨ c = k.semitones.getLastD 0 - k.scale.octave := by
  simp [Key.candidates]

theorem candidates_contains {k : Key} (hv : k.scale.Valid) {c : Int} (hc : c ∈ k.candidates) :
    k.contains c = true := by
  obtain ⟨hne, hN⟩ := hv
  have hmem {p : Int} (hp : p ∈ k.semitones) : k.contains p = true := by
    have ⟨h0, h1⟩ := keySemitones_range hN hp
    rw [contains_iff_mem hN, Int.emod_eq_of_lt h0 h1]; exact hp
  rcases mem_candidates.mp hc with hc | rfl | rfl
  · exact hmem hc
  · rw [contains_congr hN (Int.add_emod_right _ _)]
    exact hmem (headD_least 0 (keySemitones_sorted k) (keySemitones_ne_nil hne)).1
  · rw [contains_congr hN (Int.sub_emod_right _ _)]
    exact hmem (getLastD_greatest 0 (keySemitones_sorted k) (keySemitones_ne_nil hne)).1

/-- Why the loop need not look beyond the candidates: for every in-key `y`, in whatever octave, some candidate
    is at least as near to the pitch class of `x` as `y` is to `x`. -/
theorem candidate_covers {k : Key} (hv : k.scale.Valid) (x : Int) {y : Int} (hy : k.contains y = true) :
    ∃ c ∈ k.candidates, pyAbs (c - x % k.scale.octave) ≤ pyAbs (y - x) := by
  obtain ⟨hne, hN⟩ := hv
  rw [contains_iff_mem hN] at hy
  have hx := Int.mul_ediv_add_emod x k.scale.octave
  have hy' := Int.mul_ediv_add_emod y k.scale.octave
  rcases Int.lt_trichotomy (y / k.scale.octave) (x / k.scale.octave) with hm | hm | hm
  · -- `y` in a lower octave: the highest pitch class an octave down lies between it and the pitch of `x`
    obtain ⟨hhi, hge⟩ := getLastD_greatest 0 (keySemitones_sorted k) (keySemitones_ne_nil hne)
    have := (keySemitones_range hN hhi).2
    have := hge _ hy
    have := Int.emod_nonneg x (Int.ne_of_gt hN)
    have := Int.mul_le_mul_of_nonneg_left (Int.add_one_le_of_lt hm) (Int.le_of_lt hN)
    rw [Int.mul_add, Int.mul_one] at this
    exact ⟨_, mem_candidates.mpr (.inr (.inr rfl)), pyAbs_le_of_between (.inr (by omega))⟩
  · -- the same octave: the pitch class of `y` itself
    rw [hm] at hy'
    exact ⟨_, mem_candidates.mpr (.inl hy), Int.le_of_eq (congrArg pyAbs (by omega))⟩
  · -- `y` in a higher octave: the lowest pitch class an octave up
    obtain ⟨hlo, hle⟩ := headD_least 0 (keySemitones_sorted k) (keySemitones_ne_nil hne)
    have := (keySemitones_range hN hlo).1
    have := hle _ hy
    have := Int.emod_lt_of_pos x hN
    have := Int.mul_le_mul_of_nonneg_left (Int.add_one_le_of_lt hm) (Int.le_of_lt hN)
    rw [Int.mul_add, Int.mul_one] at this
    exact ⟨_, mem_candidates.mpr (.inr (.inl rfl)), pyAbs_le_of_between (.inl (by omega))⟩

theorem nearestNote_of_not_contains {k : Key} (hv : k.scale.Valid) {x : Int} (hx : k.contains x = false) :
    ∃ b ∈ k.candidates,
      k.nearestNote x = (x / k.scale.octave) * k.scale.octave + b ∧
      ∀ c ∈ k.candidates, pyAbs (b - x % k.scale.octave) ≤ pyAbs (c - x % k.scale.octave) := by
  obtain ⟨b, hf, hm, hmin⟩ := foldl_nearestStep_none (x % k.scale.octave) (cands := k.candidates)
    (List.append_ne_nil_of_right_ne_nil _ (List.cons_ne_nil _ _))
  refine ⟨b.semitone, hm, ?_, hmin⟩
  unfold Key.nearestNote
  simp only [hx, Bool.false_eq_true, if_false, pyDiv_of_pos _ hv.2, pyMod_of_pos _ hv.2, hf]

theorem Scale.len_pos {s : Scale} (h : s.semitones ≠ []) : 0 < s.len :=
  Int.natCast_pos.mpr (List.length_pos_iff.mpr h)

theorem scale_get_eq {s : Scale} (hne : s.semitones ≠ []) (d : Int) :
    s.get d = s.octave * (d / s.len) + s.semitones.getD (d % s.len).toNat 0 := by
  unfold Scale.get
  simp only [pyDiv_of_pos _ (Scale.len_pos hne), pyMod_of_pos _ (Scale.len_pos hne)]

theorem degree_index_lt {s : Scale} (hne : s.semitones ≠ []) (d : Int) :
    (d % s.len).toNat < s.semitones.length :=
  (Int.toNat_lt (Int.emod_nonneg d (Int.ne_of_gt (Scale.len_pos hne)))).mpr (Int.emod_lt_of_pos d (Scale.len_pos hne))

theorem degree_semitone_mem {s : Scale} (hne : s.semitones ≠ []) (d : Int) :
    s.semitones.getD (d % s.len).toNat 0 ∈ s.semitones := by
  rw [← List.getElem_eq_getD (h := degree_index_lt hne d)]
  exact List.getElem_mem _

theorem scale_get_bounds {s : Scale} (h : s.WF) (d : Int) :
    s.octave * (d / s.len) ≤ s.get d ∧ s.get d < s.octave * (d / s.len + 1) := by
  have := h.2.2 _ (degree_semitone_mem h.1 d)
  rw [scale_get_eq h.1, Int.mul_add, Int.mul_one]
  omega

theorem scale_get_strictMono {s : Scale} (h : s.WF) {d e : Int} (hde : d < e) : s.get d < s.get e := by
  have hn := Scale.len_pos h.1
  rcases Int.lt_or_eq_of_le (Int.ediv_le_ediv hn (Int.le_of_lt hde)) with hlt | heq
  · -- a later octave
    calc s.get d < s.octave * (d / s.len + 1) := (scale_get_bounds h d).2
      _ ≤ s.octave * (e / s.len) := Int.mul_le_mul_of_nonneg_left (Int.add_one_le_of_lt hlt) (Int.le_of_lt h.valid.2)
      _ ≤ s.get e := (scale_get_bounds h e).1
  · -- the same octave: a later position in a strictly ascending list
    have hr : d % s.len < e % s.len := by
      rw [Int.emod_def, Int.emod_def, heq]; exact Int.sub_lt_sub_right hde _
    have hi1 := degree_index_lt h.1 d
    have hi2 := degree_index_lt h.1 e
    have := List.pairwise_iff_getElem.mp h.2.1 _ _ hi1 hi2
      ((Int.toNat_lt_toNat (Int.lt_of_le_of_lt (Int.emod_nonneg d (Int.ne_of_gt hn)) hr)).mpr hr)
    rw [scale_get_eq h.1, scale_get_eq h.1, heq, ← List.getElem_eq_getD (h := hi1), ← List.getElem_eq_getD (h := hi2)]
    exact Int.add_lt_add_left this _

/-- `nearest_note` as it was before fix 01 (kept to document the defect, not part of the model): the candidates
    were the key's pitch classes plus the bare octave size. -/
def Key.nearestNoteUnrepaired (k : Key) (note : Int) : Int :=
  if k.contains note then note
  else
    let size := k.scale.octave
    match (k.semitones ++ [size]).foldl (nearestStep (pyMod note size)) none with
    | some b => pyDiv note size * size + b.semitone
    | none => pyDiv note size * size

/-- C# "pureminor", note 11: the unrepaired loop answers 12, which is not in the key; the repaired one
    answers 13, which is. -/
theorem unrepaired_nearest_note_wrong :
    let k : Key := { tonic := 1, scale := { semitones := [0, 3, 7], octave := 12 } }
    k.nearestNoteUnrepaired 11 = 12 ∧ k.contains 12 = false ∧ k.nearestNote 11 = 13 ∧ k.contains 13 = true := by
  decide +kernel

end IsobarV.Tonal
