/-
Lemmas about the automation / LFO model, and the spec-level notions the theorems of
`IsobarV/Props/C18.lean` are stated with (`WF`, `goal`, `Within`, `Dir`, `InSync`, `squareWave`).
-/
import IsobarV.Auto.Model
import Mathlib.Data.Rat.Floor
import Mathlib.Algebra.Order.BigOperators.Group.List

namespace IsobarV.Auto

theorem sumRat_eq_sum (l : List Rat) : sumRat l = l.sum := by
  induction l with
  | nil => rfl
  | cons x xs ih => rw [sumRat, ih, List.sum_cons]

theorem sumRat_append (l₁ l₂ : List Rat) : sumRat (l₁ ++ l₂) = sumRat l₁ + sumRat l₂ := by
  simp only [sumRat_eq_sum, List.sum_append]

theorem sumRat_map_div (l : List Rat) (c : Rat) : sumRat (l.map (fun x => x / c)) = sumRat l / c := by
  induction l with
  | nil => exact (zero_div c).symm
  | cons x xs ih => rw [List.map_cons, sumRat, sumRat, ih, add_div]

theorem sumRat_nonneg (l : List Rat) (h : ∀ x ∈ l, 0 ≤ x) : 0 ≤ sumRat l :=
  sumRat_eq_sum l ▸ List.sum_nonneg h

theorem le_sumRat_of_mem (l : List Rat) (h : ∀ x ∈ l, 0 ≤ x) (x : Rat) (hx : x ∈ l) : x ≤ sumRat l :=
  sumRat_eq_sum l ▸ List.single_le_sum h x hx

theorem rampIn_bounds (e i : Nat) (h : i < e) : 0 ≤ rampIn e i ∧ rampIn e i ≤ 1 := by
  unfold rampIn
  split
  · exact ⟨le_refl 0, zero_le_one⟩
  · have hi : (i : Rat) ≤ ((e - 1 : Nat) : Rat) := Nat.cast_le.mpr (Nat.le_sub_one_of_lt h)
    exact ⟨div_nonneg (Nat.cast_nonneg i) (Nat.cast_nonneg _), div_le_one_of_le₀ hi (Nat.cast_nonneg _)⟩

theorem rampOut_eq (e i : Nat) : rampOut e i = 1 - rampIn e i := by
  unfold rampOut rampIn
  split
  · exact (sub_zero 1).symm
  · rfl

theorem rampOut_bounds (e i : Nat) (h : i < e) : 0 ≤ rampOut e i ∧ rampOut e i ≤ 1 := by
  rw [rampOut_eq]
  exact ⟨sub_nonneg.mpr (rampIn_bounds e i h).2, sub_le_self 1 (rampIn_bounds e i h).1⟩

theorem rampOut_zero (e : Nat) : rampOut e 0 = 1 := by
  unfold rampOut
  split
  · rfl
  · rw [Nat.cast_zero, zero_div, sub_zero]

theorem rawAt_bounds (T e i : Nat) (he : e ≤ T) (hi : i < T) : 0 ≤ rawAt T e i ∧ rawAt T e i ≤ 1 := by
  unfold rawAt
  split
  · exact rampOut_bounds e _ (Nat.sub_lt_left_of_lt_add (by assumption) (by rwa [Nat.sub_add_cancel he]))
  · split
    · exact rampIn_bounds e i (by assumption)
    · exact ⟨zero_le_one, le_refl 1⟩

theorem rawEnvelope_length (T e : Nat) : (rawEnvelope T e).length = T := by
  rw [rawEnvelope, List.length_map, List.length_range]

theorem mem_rawEnvelope {T e : Nat} {x : Rat} : x ∈ rawEnvelope T e ↔ ∃ i, i < T ∧ rawAt T e i = x := by
  simp only [rawEnvelope, List.mem_map, List.mem_range]

theorem rawEnvelope_nonneg (T e : Nat) (he : e ≤ T) : ∀ x ∈ rawEnvelope T e, 0 ≤ x := by
  intro x hx
  obtain ⟨i, hi, rfl⟩ := mem_rawEnvelope.mp hx
  exact (rawAt_bounds T e i he hi).1

/-- Where the sum of the raw envelope gets its positivity from: the ramp-out starts with a 1, and without
    ramps every entry is 1. -/
theorem one_mem_rawEnvelope (T e : Nat) (hT : 0 < T) : (1 : Rat) ∈ rawEnvelope T e := by
  rw [mem_rawEnvelope]
  rcases Nat.eq_zero_or_pos e with rfl | h0
  · exact ⟨0, hT, by rw [rawAt, Nat.sub_zero, if_neg (Nat.not_le.mpr hT), if_neg (Nat.lt_irrefl 0)]⟩
  · exact ⟨T - e, Nat.sub_lt hT h0, by rw [rawAt, if_pos (le_refl _), Nat.sub_self, rampOut_zero]⟩

theorem rawEnvelope_sum_pos (T e : Nat) (hT : 0 < T) (he : e ≤ T) : 1 ≤ sumRat (rawEnvelope T e) :=
  le_sumRat_of_mem _ (rawEnvelope_nonneg T e he) 1 (one_mem_rawEnvelope T e hT)

theorem meanPerTick_pos (T e : Nat) (hT : 0 < T) (he : e ≤ T) : 0 < meanPerTick T e := by
  unfold meanPerTick
  rw [if_neg hT.ne']
  exact div_pos (lt_of_lt_of_le zero_lt_one (rawEnvelope_sum_pos T e hT he)) (Nat.cast_pos.mpr hT)

theorem envelope_length (T e : Nat) : (envelope T e).length = T := by
  rw [envelope, List.length_map, rawEnvelope_length]

theorem envelope_nonneg' (T e : Nat) (he : e ≤ T) : ∀ x ∈ envelope T e, 0 ≤ x := by
  intro x hx
  obtain ⟨y, hy, rfl⟩ := List.mem_map.mp hx
  obtain ⟨i, hi, -⟩ := mem_rawEnvelope.mp hy
  exact div_nonneg (rawEnvelope_nonneg T e he y hy) (meanPerTick_pos T e (Nat.zero_lt_of_lt hi) he).le

theorem envelope_sum' (T e : Nat) (he : e ≤ T) : sumRat (envelope T e) = (T : Rat) := by
  rcases Nat.eq_zero_or_pos T with rfl | hT
  · rfl
  · have hs : sumRat (rawEnvelope T e) ≠ 0 := (lt_of_lt_of_le zero_lt_one (rawEnvelope_sum_pos T e hT he)).ne'
    rw [envelope, sumRat_map_div, meanPerTick, if_neg hT.ne', div_div_cancel₀ hs]

/-- What a running modulation will still add to the value. -/
def Modulation.rem (m : Modulation) : Rat :=
  m.dpt * (if m.dur = 0 then 1 else sumRat (m.env.env.drop m.cur))

/-- Number of ticks after which a running modulation is finished (and removed). -/
def Modulation.left (m : Modulation) : Nat := if m.dur = 0 then 1 else m.dur - m.cur

/-- The states a modulation can be in while it is in `Automation.modulations`. -/
structure Modulation.WF (m : Modulation) : Prop where
  notFin : m.finished = false
  envNotFin : m.env.finished = false
  total : m.env.total = m.dur
  len : m.env.env.length = m.dur
  curEq : m.env.cur = m.cur
  curLt : m.cur < m.dur ∨ (m.dur = 0 ∧ m.cur = 0)

/-- The modulation pushes the value in direction `s` (`s = 1`: up, `s = -1`: down). -/
def Modulation.Dir (s : Rat) (m : Modulation) : Prop := 0 ≤ s * m.dpt ∧ ∀ x ∈ m.env.env, 0 ≤ x

theorem dir_up {x y : Rat} : 0 ≤ 1 * (y - x) ↔ x ≤ y := by rw [one_mul, sub_nonneg]

theorem dir_down {x y : Rat} : 0 ≤ -1 * (y - x) ↔ y ≤ x := by rw [neg_one_mul, neg_nonneg, sub_nonpos]

theorem Modulation.WF.left_pos {m : Modulation} (h : m.WF) : 1 ≤ m.left := by
  unfold Modulation.left
  split
  · exact le_refl 1
  · exact h.curLt.elim Nat.sub_pos_of_lt (fun h0 => absurd h0.1 (by assumption))

theorem Envelope.tick_running (E : Envelope) (hf : E.finished = false) (h : E.cur < E.env.length) :
    E.tick = ⟨E.env.getD E.cur 0, { E with cur := E.cur + 1, finished := decide (E.total ≤ E.cur + 1) }⟩ := by
  unfold Envelope.tick
  rw [if_neg (by rw [hf]; exact Bool.false_ne_true), if_neg (Nat.zero_lt_of_lt h).ne']

theorem Envelope.tick_empty (E : Envelope) (hf : E.finished = false) (h : E.env.length = 0) :
    E.tick = ⟨1, E⟩ := by
  unfold Envelope.tick
  rw [if_neg (by rw [hf]; exact Bool.false_ne_true), if_pos h]

theorem Envelope.tick_env (E : Envelope) : (E.tick).env.env = E.env := by
  unfold Envelope.tick
  split
  · rfl
  · split <;> rfl

theorem getD_nonneg (l : List Rat) (h : ∀ x ∈ l, 0 ≤ x) (n : Nat) : 0 ≤ l.getD n 0 := by
  rw [List.getD_eq_getElem?_getD]
  cases hx : l[n]? with
  | none => exact le_refl 0
  | some x => exact h x (List.mem_of_getElem? hx)

theorem Envelope.tick_rv_nonneg (E : Envelope) (h : ∀ x ∈ E.env, 0 ≤ x) : 0 ≤ (E.tick).rv := by
  unfold Envelope.tick
  split
  · exact le_refl 0
  · split
    · exact zero_le_one
    · exact getD_nonneg E.env h E.cur

theorem Modulation.tick_dir {s : Rat} {m : Modulation} (hd : m.Dir s) :
    0 ≤ s * (m.tick).delta ∧ (m.tick).mod.Dir s := by
  refine ⟨?_, hd.1, fun x hx => hd.2 x (Envelope.tick_env m.env ▸ hx)⟩
  show 0 ≤ s * (m.dpt * (m.env.tick).rv)
  rw [← mul_assoc]
  exact mul_nonneg hd.1 (Envelope.tick_rv_nonneg m.env hd.2)

theorem Modulation.rem_dir {s : Rat} {m : Modulation} (hd : m.Dir s) : 0 ≤ s * m.rem := by
  unfold Modulation.rem
  rw [← mul_assoc]
  refine mul_nonneg hd.1 ?_
  split
  · exact zero_le_one
  · exact sumRat_nonneg _ (fun x hx => hd.2 x (List.mem_of_mem_drop hx))

theorem Modulation.tick_spec {m : Modulation} (h : m.WF) :
    (m.left = 1 → (m.tick).mod.finished = true ∧ (m.tick).delta = m.rem) ∧
    (m.left ≠ 1 → (m.tick).mod.finished = false ∧ (m.tick).mod.WF ∧ (m.tick).mod.left + 1 = m.left ∧
        (m.tick).delta + (m.tick).mod.rem = m.rem) := by
  obtain ⟨hnf, henf, htot, hlen, hcur, hlt | ⟨hd0, -⟩⟩ := h
  · have hne : m.dur ≠ 0 := (Nat.zero_lt_of_lt hlt).ne'
    have hlt' : m.cur < m.env.env.length := hlen ▸ hlt
    -- running: the tick adds `dpt · env[cur]`, the head of what `rem` sums
    have hdrop : sumRat (m.env.env.drop m.cur) = m.env.env.getD m.cur 0 + sumRat (m.env.env.drop (m.cur + 1)) := by
      rw [List.drop_eq_getElem_cons hlt', sumRat, List.getElem_eq_getD 0]
    unfold Modulation.tick Modulation.left Modulation.rem
    rw [Envelope.tick_running m.env henf (hcur ▸ hlt')]
    simp only [if_neg hne]
    rw [hcur, htot, hnf, hdrop, mul_add]
    constructor
    · intro h1
      have hc : m.dur ≤ m.cur + 1 := Nat.sub_le_iff_le_add'.mp h1.le
      rw [if_pos hc, List.drop_eq_nil_of_le (hlen ▸ hc), sumRat, mul_zero, add_zero]
      exact ⟨rfl, rfl⟩
    · intro h1
      have hc : ¬ m.dur ≤ m.cur + 1 := fun hc =>
        h1 (by rw [Nat.le_antisymm hc hlt]; exact Nat.add_sub_cancel_left _ _)
      rw [if_neg hc]
      refine ⟨rfl, ⟨rfl, decide_eq_false hc, rfl, hlen, rfl, Or.inl (Nat.lt_of_not_le hc)⟩, ?_, rfl⟩
      rw [Nat.sub_add_eq, Nat.sub_add_cancel (Nat.sub_pos_of_lt hlt)]
  · -- zero duration: the empty envelope yields 1, so `delta_per_tick` is added once, on the only tick
    have hleft : m.left = 1 := if_pos hd0
    refine ⟨fun _ => ?_, fun h1 => absurd hleft h1⟩
    unfold Modulation.tick Modulation.rem
    rw [Envelope.tick_empty m.env henf (hlen.trans hd0), if_pos hd0]
    exact ⟨if_pos (by rw [hd0]; exact Nat.zero_le _), rfl⟩

/-- What all running modulations together will still add. -/
def pending : List Modulation → Rat
  | [] => 0
  | m :: ms => m.rem + pending ms

theorem pending_append (l₁ l₂ : List Modulation) : pending (l₁ ++ l₂) = pending l₁ + pending l₂ := by
  induction l₁ with
  | nil => exact (zero_add _).symm
  | cons x xs ih => rw [List.cons_append, pending, pending, ih, add_assoc]

theorem pending_dir {s : Rat} {ms : List Modulation} (h : ∀ m ∈ ms, m.Dir s) : 0 ≤ s * pending ms := by
  induction ms with
  | nil => exact (mul_zero s).ge
  | cons m ms ih =>
    obtain ⟨hm, hms⟩ := List.forall_mem_cons.mp h
    rw [pending, mul_add]
    exact add_nonneg (Modulation.rem_dir hm) (ih hms)

theorem tickMods_cons (m : Modulation) (ms : List Modulation) :
    tickMods (m :: ms) = ⟨(m.tick).delta + (tickMods ms).delta,
      if (m.tick).mod.finished then (tickMods ms).mods else (m.tick).mod :: (tickMods ms).mods⟩ := rfl

theorem tickMods_spec {ms : List Modulation} (h : ∀ m ∈ ms, m.WF) :
    (tickMods ms).delta + pending (tickMods ms).mods = pending ms ∧
    (∀ m ∈ (tickMods ms).mods, m.WF) ∧
    (∀ k, (∀ m ∈ ms, m.left ≤ k + 1) → ∀ m ∈ (tickMods ms).mods, m.left ≤ k) := by
  induction ms with
  | nil => exact ⟨add_zero 0, h, fun _ _ => List.forall_mem_nil _⟩
  | cons m ms ih =>
    obtain ⟨hm, hms⟩ := List.forall_mem_cons.mp h
    obtain ⟨i1, i2, i3⟩ := ih hms
    obtain ⟨t1, t2⟩ := Modulation.tick_spec hm
    rw [tickMods_cons]
    by_cases hl : m.left = 1
    · obtain ⟨hf, hd⟩ := t1 hl
      rw [hf, if_pos rfl]
      refine ⟨?_, i2, fun k hk => i3 k (List.forall_mem_cons.mp hk).2⟩
      rw [pending, ← i1, hd, add_assoc]
    · obtain ⟨hf, w1, w2, w3⟩ := t2 hl
      rw [hf, if_neg Bool.false_ne_true]
      refine ⟨?_, List.forall_mem_cons.mpr ⟨w1, i2⟩, fun k hk => ?_⟩
      · rw [pending, pending, ← i1, ← w3, add_add_add_comm]
      · obtain ⟨hk1, hk2⟩ := List.forall_mem_cons.mp hk
        exact List.forall_mem_cons.mpr ⟨Nat.le_of_succ_le_succ (w2.trans_le hk1), i3 k hk2⟩

theorem tickMods_dir {s : Rat} {ms : List Modulation} (h : ∀ m ∈ ms, m.Dir s) :
    0 ≤ s * (tickMods ms).delta ∧ ∀ m ∈ (tickMods ms).mods, m.Dir s := by
  induction ms with
  | nil => exact ⟨(mul_zero s).ge, h⟩
  | cons m ms ih =>
    obtain ⟨hm, hms⟩ := List.forall_mem_cons.mp h
    obtain ⟨d1, d2⟩ := Modulation.tick_dir hm
    obtain ⟨i1, i2⟩ := ih hms
    rw [tickMods_cons]
    refine ⟨by rw [mul_add]; exact add_nonneg d1 i1, ?_⟩
    dsimp only
    split
    · exact i2
    · exact List.forall_mem_cons.mpr ⟨d2, i2⟩

/-- Every running modulation is in a state the code can reach. -/
def Automation.WF (a : Automation) : Prop := ∀ m ∈ a.mods, m.WF

/-- Where the automation is heading: the current value plus everything the running modulations still add. -/
def Automation.goal (a : Automation) : Rat := a.current + pending a.mods

/-- Every running modulation finishes within `k` ticks. -/
def Automation.Within (a : Automation) (k : Nat) : Prop := ∀ m ∈ a.mods, m.left ≤ k

/-- Every running modulation pushes in direction `s`. -/
def Automation.Dir (a : Automation) (s : Rat) : Prop := ∀ m ∈ a.mods, m.Dir s

theorem Automation.Within.mono {a : Automation} {k k' : Nat} (h : a.Within k) (hk : k ≤ k') : a.Within k' :=
  fun m hm => Nat.le_trans (h m hm) hk

theorem Automation.idle_spec {a : Automation} (h : a.mods = []) :
    a.WF ∧ a.goal = a.current ∧ (∀ k, a.Within k) ∧ (∀ s, a.Dir s) := by
  unfold Automation.WF Automation.goal Automation.Within Automation.Dir
  rw [h]
  exact ⟨List.forall_mem_nil _, add_zero _, fun _ => List.forall_mem_nil _, fun _ => List.forall_mem_nil _⟩

theorem Automation.mods_nil_of_within_zero {a : Automation} (h : a.WF) (h0 : a.Within 0) : a.mods = [] := by
  cases hm : a.mods with
  | nil => rfl
  | cons m ms =>
    have h1 := (h m (hm ▸ List.mem_cons_self)).left_pos
    exact absurd (Nat.le_trans h1 (h0 m (hm ▸ List.mem_cons_self))) (Nat.not_succ_le_zero 0)

theorem Automation.jumpTo_auto (a : Automation) (v : Rat) : (a.jumpTo v).auto = { a with current := v } := rfl

theorem Automation.tick_auto (a : Automation) :
    (a.tick).auto = { a with ticks := a.ticks + 1, mods := (tickMods a.mods).mods,
                             current := a.current + (tickMods a.mods).delta } := by
  unfold Automation.tick
  dsimp only
  split
  · rfl
  · rename_i h
    rw [not_not.mp h]

theorem Automation.tick_spec {a : Automation} (h : a.WF) :
    (a.tick).auto.WF ∧ (a.tick).auto.goal = a.goal ∧ (∀ k, a.Within (k + 1) → (a.tick).auto.Within k) := by
  obtain ⟨t1, t2, t3⟩ := tickMods_spec h
  rw [Automation.tick_auto]
  exact ⟨t2, by unfold Automation.goal; rw [add_assoc, t1], t3⟩

theorem Automation.tick_dir {a : Automation} {s : Rat} (h : a.Dir s) :
    (a.tick).auto.Dir s ∧ 0 ≤ s * ((a.tick).auto.current - a.current) := by
  obtain ⟨d1, d2⟩ := tickMods_dir h
  rw [Automation.tick_auto]
  exact ⟨d2, by rw [add_sub_cancel_left]; exact d1⟩

theorem Automation.tickN_succ_right (n : Nat) (a : Automation) :
    (Automation.tickN (n + 1) a).auto = ((Automation.tickN n a).auto.tick).auto := by
  induction n generalizing a with
  | zero => rfl
  | succ n ih => exact ih (a.tick).auto

theorem Automation.tickN_spec (n : Nat) {a : Automation} (h : a.WF) :
    (Automation.tickN n a).auto.WF ∧ (Automation.tickN n a).auto.goal = a.goal ∧
    (∀ k, a.Within (k + n) → (Automation.tickN n a).auto.Within k) := by
  induction n with
  | zero => exact ⟨h, rfl, fun k hk => hk⟩
  | succ n ih =>
    obtain ⟨i1, i2, i3⟩ := ih
    obtain ⟨t1, t2, t3⟩ := Automation.tick_spec i1
    rw [Automation.tickN_succ_right]
    exact ⟨t1, t2.trans i2, fun k hk => t3 k (i3 (k + 1) (by rwa [Nat.add_right_comm]))⟩

theorem Automation.tickN_dir (n : Nat) {a : Automation} {s : Rat} (h : a.Dir s) :
    (Automation.tickN n a).auto.Dir s := by
  induction n with
  | zero => exact h
  | succ n ih => rw [Automation.tickN_succ_right]; exact (Automation.tick_dir ih).1

/-- Arrival: once every running modulation has had its ticks, the automation is at its goal and idle. -/
theorem Automation.tickN_arrives {a : Automation} (h : a.WF) {k n : Nat} (hk : a.Within k) (hn : k ≤ n) :
    (Automation.tickN n a).auto.current = a.goal ∧ (Automation.tickN n a).auto.mods = [] := by
  obtain ⟨t1, t2, t3⟩ := Automation.tickN_spec n h
  have hnil := Automation.mods_nil_of_within_zero t1 (t3 0 (hk.mono (by rwa [Nat.zero_add])))
  exact ⟨(Automation.idle_spec hnil).2.1.symm.trans t2, hnil⟩

theorem Automation.tick_idle (a : Automation) (h : a.mods = []) :
    a.tick = ⟨[], { a with ticks := a.ticks + 1 }⟩ := by
  unfold Automation.tick
  rw [h]
  exact if_neg (not_not.mpr (add_zero _))

theorem Automation.tickN_idle (n : Nat) (a : Automation) (h : a.mods = []) :
    Automation.tickN n a = ⟨[], { a with ticks := a.ticks + n }⟩ := by
  induction n generalizing a with
  | zero => rfl
  | succ n ih =>
    rw [Automation.tickN, Automation.tick_idle a h, ih { a with ticks := a.ticks + 1 } h]
    simp only [List.append_nil, Nat.add_assoc, Nat.add_comm 1 n]

/-- Monotone approach: while all running modulations push in direction `s`, each tick moves the value that
    way and not past the goal. -/
theorem Automation.monotone_step {a : Automation} (h : a.WF) {s : Rat} (hd : a.Dir s) (n : Nat) :
    0 ≤ s * ((Automation.tickN (n + 1) a).auto.current - (Automation.tickN n a).auto.current) ∧
    0 ≤ s * (a.goal - (Automation.tickN (n + 1) a).auto.current) := by
  obtain ⟨w1, w2, _⟩ := Automation.tickN_spec n h
  obtain ⟨d1, d2⟩ := Automation.tick_dir (Automation.tickN_dir n hd)
  rw [Automation.tickN_succ_right, ← w2, ← (Automation.tick_spec w1).2.1]
  refine ⟨d2, ?_⟩
  unfold Automation.goal
  rw [add_sub_cancel_left]
  exact pending_dir d1

theorem Modulation.new_wf (dpt : Rat) (D e : Nat) : (Modulation.new dpt D e).WF :=
  ⟨rfl, rfl, rfl, envelope_length D e, rfl, (Nat.eq_zero_or_pos D).symm.imp_right fun h => ⟨h, rfl⟩⟩

theorem Modulation.new_rem (dpt : Rat) (D e : Nat) (he : e ≤ D) :
    (Modulation.new dpt D e).rem = dpt * (if D = 0 then 1 else (D : Rat)) := by
  show dpt * (if D = 0 then 1 else sumRat ((envelope D e).drop 0)) = _
  rw [List.drop_zero, envelope_sum' D e he]

theorem Modulation.new_left (dpt : Rat) (D e : Nat) : (Modulation.new dpt D e).left = max 1 D := by
  rcases Nat.eq_zero_or_pos D with rfl | h
  · rfl
  · exact (if_neg h.ne').trans (Nat.max_eq_right h).symm

/-- The modulation `move_by` starts: `D` ticks, `delta_per_tick = value / (D or 1)`. -/
theorem Automation.start_spec (a : Automation) (value : Rat) (D e : Nat) (he : e ≤ D) :
    let a' := { a with mods := a.mods ++ [Modulation.new (value / (if D = 0 then 1 else (D : Rat))) D e] }
    (a.WF → a'.WF) ∧ a'.goal = a.goal + value ∧ (∀ k, a.Within k → max 1 D ≤ k → a'.Within k) ∧
    (∀ s, a.Dir s → 0 ≤ s * value → a'.Dir s) := by
  intro a'
  have hc : (0 : Rat) < (if D = 0 then 1 else (D : Rat)) := by
    split
    · exact zero_lt_one
    · exact Nat.cast_pos.mpr (Nat.pos_of_ne_zero (by assumption))
  refine ⟨fun h => ?_, ?_, fun k hk hD => ?_, fun s hs hv => ?_⟩
  · exact List.forall_mem_append.mpr ⟨h, List.forall_mem_singleton.mpr (Modulation.new_wf _ _ _)⟩
  · show a.current + pending (a.mods ++ [_]) = a.current + pending a.mods + value
    rw [pending_append, pending, pending, Modulation.new_rem _ _ _ he, div_mul_cancel₀ _ hc.ne', add_zero,
      add_assoc]
  · exact List.forall_mem_append.mpr ⟨hk, List.forall_mem_singleton.mpr (by rwa [Modulation.new_left])⟩
  · exact List.forall_mem_append.mpr ⟨hs, List.forall_mem_singleton.mpr
      ⟨(div_nonneg hv hc.le).trans_eq (mul_div_assoc s value _), envelope_nonneg' D e he⟩⟩

theorem Automation.moveBy_cases (a : Automation) (tpb : Nat) (value : Rat) (dur : Option Rat) (env : Rat) :
    a.moveBy tpb value dur env = ⟨true, a⟩ ∨
    ∃ D e : Nat, e ≤ D ∧ (D : Int) = durationTicksInt tpb (dur.getD a.defaultDuration) ∧
      a.moveBy tpb value dur env =
        ⟨false, { a with mods := a.mods ++ [Modulation.new (value / (if D = 0 then 1 else (D : Rat))) D e] }⟩ := by
  unfold Automation.moveBy
  dsimp only
  generalize durationTicksInt tpb (dur.getD a.defaultDuration) = Di
  generalize truncInt (env * (Di : Rat)) = ei
  by_cases hc : Di < 0 ∨ ei < 0 ∨ Di < ei
  · rw [if_pos hc]
    exact Or.inl rfl
  · rw [if_neg hc]
    obtain ⟨hD, hE, hED⟩ : 0 ≤ Di ∧ 0 ≤ ei ∧ ei ≤ Di := by omega
    obtain ⟨D, rfl⟩ := Int.eq_ofNat_of_zero_le hD
    obtain ⟨E, rfl⟩ := Int.eq_ofNat_of_zero_le hE
    refine Or.inr ⟨D, E, Int.ofNat_le.mp hED, rfl, ?_⟩
    simp only [Int.toNat_natCast, Int.natCast_pos, Int.cast_natCast, Nat.pos_iff_ne_zero, ite_not]

theorem durationTicksInt_nonneg (tpb : Nat) (dur : Rat) (h : 0 ≤ dur) : 0 ≤ durationTicksInt tpb dur := by
  have : ((-1 : Int) : Rat) < dur * (tpb : Rat) :=
    lt_of_lt_of_le (by norm_num) (mul_nonneg h (Nat.cast_nonneg tpb))
  have := Rat.lt_ceil_iff.mpr this
  unfold durationTicksInt
  omega

theorem truncInt_bounds (x : Rat) (D : Int) (h0 : 0 ≤ x) (h1 : x ≤ (D : Rat)) :
    0 ≤ truncInt x ∧ truncInt x ≤ D := by
  unfold truncInt
  rw [if_pos h0]
  exact ⟨Rat.le_floor_iff.mpr (by exact_mod_cast h0),
    Int.cast_le.mp ((Rat.floor_le x).trans h1)⟩

theorem Automation.moveBy_ok (a : Automation) (tpb : Nat) (value : Rat) (dur : Option Rat) (env : Rat)
    (hd : 0 ≤ dur.getD a.defaultDuration) (he0 : 0 ≤ env) (he1 : env ≤ 1) :
    (a.moveBy tpb value dur env).raised = false := by
  have hD := durationTicksInt_nonneg tpb _ hd
  unfold Automation.moveBy
  dsimp only
  generalize durationTicksInt tpb (dur.getD a.defaultDuration) = Di at hD ⊢
  have hDr : (0 : Rat) ≤ Di := Int.cast_nonneg hD
  have hb := truncInt_bounds (env * Di) Di (mul_nonneg he0 hDr) (mul_le_of_le_one_left hDr he1)
  rw [if_neg (by omega)]

theorem Automation.moveBy_spec {a : Automation} {tpb : Nat} {value : Rat} {dur : Option Rat} {env : Rat}
    (hr : (a.moveBy tpb value dur env).raised = false) :
    (a.WF → (a.moveBy tpb value dur env).auto.WF) ∧
    (a.moveBy tpb value dur env).auto.goal = a.goal + value ∧
    (∀ k, a.Within k → max 1 (durationTicksInt tpb (dur.getD a.defaultDuration)).toNat ≤ k →
        (a.moveBy tpb value dur env).auto.Within k) ∧
    (∀ s, a.Dir s → 0 ≤ s * value → (a.moveBy tpb value dur env).auto.Dir s) := by
  rcases Automation.moveBy_cases a tpb value dur env with h | ⟨D, e, he, hD, h⟩
  · rw [h] at hr; cases hr
  · rw [h, ← hD, Int.toNat_natCast]
    exact Automation.start_spec a value D e he

theorem Automation.moveBy_wf (a : Automation) (tpb : Nat) (value : Rat) (dur : Option Rat) (env : Rat)
    (h : a.WF) : (a.moveBy tpb value dur env).auto.WF := by
  rcases Automation.moveBy_cases a tpb value dur env with h' | ⟨D, e, he, _, h'⟩
  · rw [h']; exact h
  · rw [h']; exact (Automation.start_spec a value D e he).1 h

theorem applyEvents_map (bs : List Nat) (v : Rat) (S : Sinks) (s : Nat) :
    applyEvents (bs.map (fun b => (⟨b, v⟩ : Event))) S s = if s ∈ bs then some v else S s := by
  induction bs generalizing S with
  | nil => rfl
  | cons b bs ih =>
    rw [List.map_cons, applyEvents, ih]
    simp only [List.mem_cons, or_comm (a := s = b), ite_or]

theorem Automation.tick_events (a : Automation) :
    (a.tick).events =
      if (a.tick).auto.current ≠ a.current then a.bindings.map (fun s => (⟨s, (a.tick).auto.value⟩ : Event))
      else [] := by
  rw [Automation.tick_auto]
  unfold Automation.tick
  dsimp only
  split <;> rfl

/-- Every bound sink holds the automation's reported value. -/
def World.InSync (W : World) : Prop := ∀ s ∈ W.auto.bindings, W.sinks s = some W.auto.value

theorem Automation.jumpTo_inSync (a : Automation) (v : Rat) (S : Sinks) :
    World.InSync ⟨(a.jumpTo v).auto, applyEvents (a.jumpTo v).events S⟩ := by
  intro x hx
  show applyEvents (a.bindings.map _) S x = _
  rw [applyEvents_map]
  exact if_pos hx

/-- `move_by` leaves bindings, reported value and sinks as they are. -/
theorem Automation.moveBy_inSync (a : Automation) (tpb : Nat) (value : Rat) (dur : Option Rat) (env : Rat)
    (S : Sinks) (h : World.InSync ⟨a, S⟩) : World.InSync ⟨(a.moveBy tpb value dur env).auto, S⟩ := by
  rcases Automation.moveBy_cases a tpb value dur env with h' | ⟨_, _, _, _, h'⟩
  · rw [h']; exact h
  · rw [h']; exact h

theorem World.step_inSync (W : World) (o : Op) (h : W.InSync) : (W.step o).InSync := by
  cases o with
  | bind s =>
    intro x hx
    show (if x = s then some W.auto.value else W.sinks x) = some W.auto.value
    split
    · rfl
    · rename_i hxs
      exact h x ((List.mem_append.mp hx).resolve_right (fun hx => hxs (List.mem_singleton.mp hx)))
  | moveTo tpb t d e => exact Automation.moveBy_inSync { W.auto with mods := [] } tpb _ d e W.sinks h
  | moveBy tpb v d e => exact Automation.moveBy_inSync W.auto tpb v d e W.sinks h
  | jump v => exact Automation.jumpTo_inSync W.auto v W.sinks
  | tick =>
    -- a tick is a `jump_to` when the value changes, and otherwise touches none of the three
    unfold World.step Automation.tick
    dsimp only
    split
    · exact Automation.jumpTo_inSync _ _ W.sinks
    · exact h

theorem World.step_wf (W : World) (o : Op) (h : W.auto.WF) : (W.step o).auto.WF := by
  cases o with
  | bind s => exact h
  | moveTo tpb t d e => exact Automation.moveBy_wf _ tpb _ d e (Automation.idle_spec rfl).1
  | moveBy tpb v d e => exact Automation.moveBy_wf _ tpb v d e h
  | jump v => exact h
  | tick => exact (Automation.tick_spec h).1

theorem World.run_invariant {P : World → Prop} (step : ∀ W o, P W → P (W.step o)) (ops : List Op) (W : World)
    (h : P W) : P (W.run ops) := by
  induction ops generalizing W with
  | nil => exact h
  | cons o os ih => exact ih _ (step W o h)

theorem Automation.value_clip {a : Automation} {r : Range} (hr : a.range = some r) (hb : a.boundaries = .clip) :
    a.value = clip r.lo r.hi a.current := by
  unfold Automation.value
  rw [hr, hb]

theorem Automation.value_wrap {a : Automation} {r : Range} (hr : a.range = some r) (hb : a.boundaries = .wrap) :
    a.value = r.lo + pmod (a.current - r.lo) (r.hi - r.lo) := by
  unfold Automation.value
  rw [hr, hb]

theorem clip_eq (lo hi x : Rat) : clip lo hi x = max lo (min x hi) := by
  rw [min_def', max_def']
  unfold clip
  simp only [← not_le, ite_not]

theorem clip_bounds (lo hi x : Rat) (h : lo ≤ hi) : lo ≤ clip lo hi x ∧ clip lo hi x ≤ hi := by
  rw [clip_eq]
  exact ⟨le_max_left _ _, max_le h (min_le_right _ _)⟩

theorem clip_id (lo hi x : Rat) (h1 : lo ≤ x) (h2 : x ≤ hi) : clip lo hi x = x := by
  rw [clip_eq, min_eq_left h2, max_eq_right h1]

theorem pmod_bounds (x w : Rat) (hw : 0 < w) : 0 ≤ pmod x w ∧ pmod x w < w := by
  unfold pmod
  have h1 := mul_le_mul_of_nonneg_left (Rat.floor_le (x / w)) hw.le
  have h2 := mul_lt_mul_of_pos_left (Rat.lt_floor_add_one (x / w)) hw
  rw [mul_div_cancel₀ _ hw.ne'] at h1 h2
  rw [Int.cast_add, Int.cast_one, mul_add, mul_one] at h2
  exact ⟨sub_nonneg.mpr h1, sub_lt_iff_lt_add'.mpr h2⟩

theorem pmod_id (x w : Rat) (h0 : 0 ≤ x) (h1 : x < w) : pmod x w = x := by
  have hw : 0 < w := lt_of_le_of_lt h0 h1
  have hf : ⌊x / w⌋ = 0 := Int.floor_eq_zero_iff.mpr ⟨div_nonneg h0 hw.le, (div_lt_one hw).mpr h1⟩
  show x - w * ((⌊x / w⌋ : Int) : Rat) = x
  rw [hf, Int.cast_zero, mul_zero, sub_zero]

theorem scaleLinLin_bounds (v a b lo hi : Rat) (hab : a < b) (h1 : a ≤ v) (h2 : v ≤ b) (h : lo ≤ hi) :
    lo ≤ scaleLinLin v a b lo hi ∧ scaleLinLin v a b lo hi ≤ hi := by
  unfold scaleLinLin
  have t0 : 0 ≤ (v - a) / (b - a) := div_nonneg (sub_nonneg.mpr h1) (sub_pos.mpr hab).le
  have t1 : (v - a) / (b - a) ≤ 1 := div_le_one_of_le₀ (sub_le_sub_right h2 a) (sub_pos.mpr hab).le
  have d : 0 ≤ hi - lo := sub_nonneg.mpr h
  have u := mul_le_of_le_one_left d t1
  exact ⟨le_add_of_nonneg_left (mul_nonneg t0 d), le_of_le_of_eq (add_le_add_left u lo) (sub_add_cancel hi lo)⟩

theorem LFO.tick_started (w : Rat → Rat) (tpb : Nat) (l : LFO) (hs : l.started = true) :
    (l.tick w tpb).lfo =
      { l with time := l.time + 1 / (tpb : Rat),
               current := scaleLinLin (w ((l.time + 1 / (tpb : Rat)) * l.freq)) (-1) 1 l.min l.max } := by
  unfold LFO.tick
  rw [hs]
  rfl

theorem LFO.tickN_succ_right (w : Rat → Rat) (tpb : Nat) (n : Nat) (l : LFO) :
    LFO.tickN w tpb (n + 1) l = ((LFO.tickN w tpb n l).tick w tpb).lfo := by
  induction n generalizing l with
  | zero => rfl
  | succ n ih => exact ih (l.tick w tpb).lfo

theorem LFO.tickN_eq (w : Rat → Rat) (tpb : Nat) (l : LFO) (hs : l.started = true) (n : Nat) :
    LFO.tickN w tpb (n + 1) l =
      { l with time := l.time + ((n + 1 : Nat) : Rat) * (1 / (tpb : Rat)),
               current := scaleLinLin (w ((l.time + ((n + 1 : Nat) : Rat) * (1 / (tpb : Rat))) * l.freq))
                            (-1) 1 l.min l.max } := by
  induction n with
  | zero =>
    rw [Nat.zero_add, Nat.cast_one, one_mul]
    exact LFO.tick_started w tpb l hs
  | succ n ih =>
    rw [LFO.tickN_succ_right, ih, LFO.tick_started w tpb, Nat.cast_succ (n + 1), add_one_mul, ← add_assoc]
    exact hs

theorem LFO.tickN_value (w : Rat → Rat) (tpb : Nat) (n : Nat) (l : LFO) (hs : l.started = true) :
    (LFO.tickN w tpb (n + 1) l).value =
      scaleLinLin (w ((l.time + ((n + 1 : Nat) : Rat) * (1 / (tpb : Rat))) * l.freq)) (-1) 1 l.min l.max := by
  rw [LFO.tickN_eq w tpb l hs n]
  rfl

theorem periodic_add_nat (w : Rat → Rat) (h : ∀ x, w (x + 1) = w x) (x : Rat) (k : Nat) :
    w (x + (k : Rat)) = w x := by
  induction k with
  | zero => rw [Nat.cast_zero, add_zero]
  | succ k ih => rw [Nat.cast_succ, ← add_assoc, h, ih]

/-- A concrete waveform satisfying the hypotheses of the LFO theorems (a square wave of period 1). -/
def squareWave (x : Rat) : Rat := if x - ((x.floor : Int) : Rat) < 1 / 2 then 1 else -1

theorem squareWave_bounded (x : Rat) : -1 ≤ squareWave x ∧ squareWave x ≤ 1 := by
  unfold squareWave; split <;> constructor <;> norm_num

theorem squareWave_periodic (x : Rat) : squareWave (x + 1) = squareWave x := by
  unfold squareWave
  rw [Rat.floor_add_one, Int.cast_add, Int.cast_one, add_sub_add_right_eq_sub]

end IsobarV.Auto
