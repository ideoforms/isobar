/-
In a world without action callbacks a track's tick is a function of that track alone (`soloTick`), and the
track phase of a timeline tick is the per-track function applied track by track (`soloPhase`); with unique
track identities the pending starts, too, are applied track by track (`applyStarts`).  Together: the track
phase of a tick is `soloPhase` of the tracks as the first two phases leave them (`C07.prepared`,
`C07.phase_solo`), and the rest of the timeline does not depend on the tracks (`SameRest`, `tickTL_frame`).
-/
import IsobarV.Sched.Fields

namespace IsobarV.Sched

/-- No stream of the world contains an action event (tracks cannot call the timeline API). -/
def NoActions (W : World) : Prop := ∀ sid pos d a ops out, W sid pos ≠ some (.ev d a (.action ops out))

structure SoloRes where
  t : Track
  calls : List Call
  out : TickOut
  deriving Repr

structure PerfSolo where
  t : Track
  calls : List Call
  raised : Bool
  deriving Repr

/-- `perform_event` for a non-action event, as a function of the track alone. -/
def performSolo (q : Nat) (t : Track) (active : Bool) (k : EvKind) : PerfSolo :=
  if active = false ∨ t.muted = true then { t := t, calls := [], raised := false }
  else match k with
    | .note vs =>
      { t := { t with offs := t.offs ++ (performVoices (t.cur * q) vs).offs },
        calls := (performVoices (t.cur * q) vs).calls, raised := (performVoices (t.cur * q) vs).raised }
    | .control cc v ch bad => if bad then { t := t, calls := [], raised := true } else { t := t, calls := [Call.control cc v ch], raised := false }
    | .program p ch bad => if bad then { t := t, calls := [], raised := true } else { t := t, calls := [Call.program p ch], raised := false }
    | .action _ _ => { t := t, calls := [], raised := false }

/-- The tail of `Track.tick` on the track alone. -/
def endSolo (t : Track) (stopped : Bool) : Track :=
  { t with finished := (if stopped then t.finished || t.offs.isEmpty else t.finished), cur := t.cur + 1 }

/-- `Track.tick` as a function of the track alone (worlds without action callbacks). -/
def soloAfterPull (q : Nat) (p : PullRes) : SoloRes :=
  match p.r with
  | .raised => { t := p.t, calls := [], out := .raised }
  | .diverged => { t := p.t, calls := [], out := .diverged }
  | .stop => { t := endSolo p.t true, calls := [], out := .ok }
  | .ev _ a k =>
    if (performSolo q p.t a k).raised then { t := (performSolo q p.t a k).t, calls := (performSolo q p.t a k).calls, out := .raised }
    else { t := endSolo (performSolo q p.t a k).t false, calls := (performSolo q p.t a k).calls, out := .ok }

def soloTick (W : World) (q : Nat) (t : Track) : SoloRes :=
  if t.started = false then { t := t, calls := [], out := .ok }
  else if t.nxt ≤ (t.cur * q : Nat) then soloAfterPull q (Track.pullLoop W q (t.fuel q) t .stop)
  else { t := endSolo t false, calls := [], out := .ok }

theorem performSolo_frame (q : Nat) (t : Track) (a : Bool) (k : EvKind) :
    ∃ os, (performSolo q t a k).t = { t with offs := os } ∧
      (os = t.offs ∨ ∃ vs, k = .note vs ∧ os = t.offs ++ (performVoices (t.cur * q) vs).offs) := by
  unfold performSolo
  by_cases hq : a = false ∨ t.muted = true
  · rw [if_pos hq]; exact ⟨_, rfl, Or.inl rfl⟩
  · rw [if_neg hq]
    cases k with
    | note vs => exact ⟨_, rfl, Or.inr ⟨vs, rfl, rfl⟩⟩
    | control cc v ch bad => cases bad <;> exact ⟨_, rfl, Or.inl rfl⟩
    | program p ch bad => cases bad <;> exact ⟨_, rfl, Or.inl rfl⟩
    | action ops out => exact ⟨_, rfl, Or.inl rfl⟩

theorem soloAfterPull_frame (q : Nat) (p : PullRes) :
    ∃ os f cu, (soloAfterPull q p).t = { p.t with offs := os, finished := f, cur := cu } ∧
      (f = p.t.finished ∨ p.r = .stop) ∧ ((soloAfterPull q p).out = .ok → cu = p.t.cur + 1) ∧ cu ≤ p.t.cur + 1 ∧
      (os = p.t.offs ∨ ∃ d a vs, p.r = .ev d a (.note vs) ∧ os = p.t.offs ++ (performVoices (p.t.cur * q) vs).offs) := by
  unfold soloAfterPull
  split
  · exact ⟨_, _, _, rfl, Or.inl rfl, (fun h => nomatch h), Nat.le_succ _, Or.inl rfl⟩
  · exact ⟨_, _, _, rfl, Or.inl rfl, (fun h => nomatch h), Nat.le_succ _, Or.inl rfl⟩
  · exact ⟨_, _, _, rfl, Or.inr ‹_›, fun _ => rfl, Nat.le_refl _, Or.inl rfl⟩
  · rename_i d a k hr
    obtain ⟨os, ho, hos⟩ := performSolo_frame q p.t a k
    split
    · exact ⟨_, _, _, ho, Or.inl rfl, (fun h => nomatch h), Nat.le_succ _,
        hos.imp id fun ⟨vs, hk, h⟩ => ⟨d, a, vs, hk ▸ hr, h⟩⟩
    · exact ⟨_, _, _, by rw [endSolo, ho]; rfl, Or.inl rfl, fun _ => rfl, Nat.le_refl _,
        hos.imp id fun ⟨vs, hk, h⟩ => ⟨d, a, vs, hk ▸ hr, h⟩⟩

theorem soloTick_frame (W : World) (q : Nat) (t : Track) :
    ∃ p c n os f cu, (soloTick W q t).t = { t with pos := p, count := c, nxt := n, offs := os, finished := f, cur := cu } := by
  unfold soloTick
  split
  · exact ⟨_, _, _, _, _, _, rfl⟩
  · split
    · obtain ⟨p, c, n, hp⟩ := pullLoop_frame W q (t.fuel q) t .stop
      obtain ⟨os, f, cu, h, _⟩ := soloAfterPull_frame q (Track.pullLoop W q (t.fuel q) t .stop)
      exact ⟨p, c, n, os, f, cu, by rw [h, hp]⟩
    · exact ⟨_, _, _, _, _, _, rfl⟩

theorem soloTick_id (W : World) (q : Nat) (t : Track) : (soloTick W q t).t.id = t.id := by
  obtain ⟨_, _, _, _, _, _, h⟩ := soloTick_frame W q t
  rw [h]

theorem performEvent_solo (tl : TL) (t : Track) (d : Nat) (a : Bool) (k : EvKind) (hf : tl.find t.id = some t)
    (hk : ∀ ops out, k ≠ .action ops out) :
    performEvent tl t d a k =
      { tl := tl.setTrack (performSolo tl.q t a k).t, calls := (performSolo tl.q t a k).calls, stopped := false,
        raised := (performSolo tl.q t a k).raised } := by
  have same := setTrack_self hf
  unfold performEvent performSolo
  by_cases hq : a = false ∨ t.muted = true
  · rw [if_pos hq, if_pos hq, same]
  · rw [if_neg hq, if_neg hq]
    cases k with
    | note vs => rfl
    | control cc v ch bad => cases bad <;> simp only [same, if_true, Bool.false_eq_true, if_false]
    | program p ch bad => cases bad <;> simp only [same, if_true, Bool.false_eq_true, if_false]
    | action ops out => exact absurd rfl (hk ops out)

theorem endTick_solo (tl : TL) (tid : Nat) (t : Track) (stopped : Bool) (hf : tl.find tid = some t) :
    endTick tl tid stopped = tl.setTrack (endSolo t stopped) := by
  rw [endTick, hf]; rfl

theorem tickTrack_solo (W : World) (hW : NoActions W) (tl : TL) (tid : Nat) (t : Track) (hf : tl.find tid = some t) :
    tickTrack W tl tid =
      { tl := tl.setTrack (soloTick W tl.q t).t, calls := (soloTick W tl.q t).calls, out := (soloTick W tl.q t).out } := by
  -- `Track.tick` writes the track back up to three times (after the pull, after the event, at its end), every
  -- time under the same id: successive `setTrack`s collapse into the last one (`setTrack_setTrack`), and each
  -- lookup in between finds what was just written (`find_setTrack`)
  have hid : t.id = tid := findTrack_id hf
  subst hid
  unfold tickTrack soloTick
  simp only [hf]
  by_cases hst : t.started = false
  · rw [if_pos hst, if_pos hst, setTrack_self hf]
  · rw [if_neg hst, if_neg hst]
    split
    · obtain ⟨p', c', n', hp⟩ := pullLoop_frame W tl.q (t.fuel tl.q) t .stop
      have hev := @pullLoop_ev W tl.q (t.fuel tl.q) t
      generalize Track.pullLoop W tl.q (t.fuel tl.q) t .stop = p at hp hev
      have hpid : p.t.id = t.id := by rw [hp]
      have hfind : (tl.setTrack p.t).find t.id = some p.t := hpid ▸ find_setTrack (hpid ▸ hf)
      unfold afterPull soloAfterPull
      cases hr : p.r with
      | raised => rfl
      | diverged => rfl
      | stop =>
        dsimp only
        rw [endTick_solo _ _ _ _ hfind, setTrack_setTrack tl (x := p.t) (y := endSolo p.t true) rfl]
      | ev d a k =>
        have hk : ∀ ops out, k ≠ .action ops out := fun ops out hk' =>
          let ⟨sid, pos, h⟩ := hev hr
          hW sid pos d a ops out (hk' ▸ h)
        have hs : p.t.id = (performSolo tl.q p.t a k).t.id := by
          obtain ⟨os, ho, _⟩ := performSolo_frame tl.q p.t a k
          rw [ho]
        have hq : (tl.setTrack p.t).q = tl.q := rfl
        dsimp only
        rw [performEvent_solo _ _ _ _ _ (hpid ▸ hfind) hk, hq]
        dsimp only
        generalize performSolo tl.q p.t a k = s at hs ⊢
        have hfind2 : ((tl.setTrack p.t).setTrack s.t).find t.id = some s.t := by
          rw [← hpid, hs]; exact find_setTrack (hs ▸ hpid ▸ hfind)
        by_cases hraise : s.raised = true
        · rw [if_pos hraise, if_pos hraise, setTrack_setTrack tl hs]
        · rw [if_neg hraise, if_neg hraise, endTick_solo _ _ _ _ hfind2,
            setTrack_setTrack _ (x := s.t) (y := endSolo s.t false) rfl,
            setTrack_setTrack tl (x := p.t) (y := endSolo s.t false) hs]
    · rw [endTick_solo _ _ _ _ hf]

structure PhaseRes where
  tracks : List Track
  calls : List Call
  res : Res
  deriving Repr

/-- The track phase of `Timeline.tick` as a function of the tracks alone (no callbacks): each track's
    solo tick in order; a finished track is dropped; a faulting track is dropped and its notes released
    (tolerant) or stops the phase (intolerant). -/
def soloPhase (W : World) (q : Nat) (tolerant : Bool) : List Track → PhaseRes
  | [] => { tracks := [], calls := [], res := .ok }
  | t :: ts =>
    match (soloTick W q t).out with
    | .diverged => { tracks := (soloTick W q t).t :: ts, calls := (soloTick W q t).calls, res := .diverged }
    | .raised =>
      if tolerant then
        { tracks := (soloPhase W q tolerant ts).tracks,
          calls := (soloTick W q t).calls ++ (soloTick W q t).t.flushCalls ++ (soloPhase W q tolerant ts).calls,
          res := (soloPhase W q tolerant ts).res }
      else { tracks := (soloTick W q t).t :: ts, calls := (soloTick W q t).calls, res := .raised }
    | .ok =>
      { tracks := (if (soloTick W q t).t.finished ∧ (soloTick W q t).t.rwd then [] else [(soloTick W q t).t]) ++
                  (soloPhase W q tolerant ts).tracks,
        calls := (soloTick W q t).calls ++ (soloPhase W q tolerant ts).calls,
        res := (soloPhase W q tolerant ts).res }

/-- **The track phase decomposes.**  In a world without callbacks, for a timeline whose track ids
    are unique, ticking the tracks `rest` (those not yet served; `done` = already served) gives exactly
    the per-track function applied in order. -/
theorem phaseTracks_solo (W : World) (hW : NoActions W) (q : Nat) (tol : Bool) (rest : List Track) :
    ∀ (done : List Track) (tl : TL), tl.q = q → tl.tolerant = tol → tl.tracks = done ++ rest →
      ((done ++ rest).map Track.id).Nodup →
      (phaseTracks W tl (rest.map Track.id)).tl.tracks = done ++ (soloPhase W q tol rest).tracks ∧
      (phaseTracks W tl (rest.map Track.id)).calls = (soloPhase W q tol rest).calls ∧
      (phaseTracks W tl (rest.map Track.id)).res = (soloPhase W q tol rest).res := by
  induction rest with
  | nil => intro done tl _ _ htr _; exact ⟨htr, rfl, rfl⟩
  | cons t ts ih =>
    intro done tl hq htol htr hnd
    have hdone : ∀ u ∈ done, u.id ≠ t.id := fun u hu heq =>
      (List.nodup_append.mp (List.map_append ▸ hnd)).2.2 u.id (List.mem_map_of_mem hu) t.id (List.mem_cons_self ..) heq
    have hstep := tickTrack_solo W hW tl t.id t (by rw [TL.find, htr]; exact findTrack_at hdone rfl)
    rw [hq] at hstep
    have hsid := soloTick_id W q t
    simp only [List.map_cons, phaseTracks, soloPhase, hstep]
    generalize soloTick W q t = s at hsid ⊢
    have htr1 : (tl.setTrack s.t).tracks = done ++ s.t :: ts := by
      rw [TL.setTrack, htr]; exact setFirst_at (hsid ▸ hdone) hsid.symm
    have hfind1 : (tl.setTrack s.t).find t.id = some s.t := by
      rw [TL.find, htr1]; exact findTrack_at hdone hsid
    have htr2 : ((tl.setTrack s.t).removeTrack t.id).tracks = done ++ ts := by
      rw [TL.removeTrack, htr1]; exact eraseFirst_at hdone hsid
    have hnd_ts : ((done ++ ts).map Track.id).Nodup :=
      hnd.sublist (((List.sublist_cons_self t ts).append_left done).map _)
    have hnd_keep : (((done ++ [s.t]) ++ ts).map Track.id).Nodup := by
      rw [List.append_assoc, List.singleton_append, List.map_append, List.map_cons, hsid, ← List.map_cons, ← List.map_append]
      exact hnd
    cases hout : s.out with
    | diverged => exact ⟨htr1, rfl, rfl⟩
    | raised =>
      dsimp only
      cases tol with
      | true =>
        rw [htol, if_pos rfl, if_pos rfl]
        obtain ⟨i1, i2, i3⟩ := ih done ((tl.setTrack s.t).removeTrack t.id) hq htol htr2 hnd_ts
        refine ⟨i1, ?_, i3⟩
        dsimp only
        rw [flushOf, hfind1, i2]
      | false => rw [htol, if_neg Bool.false_ne_true, if_neg Bool.false_ne_true]; exact ⟨htr1, rfl, rfl⟩
    | ok =>
      dsimp only
      by_cases hfin : s.t.finished = true ∧ s.t.rwd = true
      · obtain ⟨i1, i2, i3⟩ := ih done ((tl.setTrack s.t).removeTrack t.id) hq htol htr2 hnd_ts
        have hdrop : dropFinished (tl.setTrack s.t) t.id = (tl.setTrack s.t).removeTrack t.id := by
          rw [dropFinished, hfind1]; exact if_pos hfin
        rw [hdrop, if_pos hfin, i2]
        exact ⟨i1, rfl, i3⟩
      · obtain ⟨i1, i2, i3⟩ := ih (done ++ [s.t]) (tl.setTrack s.t) hq htol (by rw [htr1]; simp) hnd_keep
        have hdrop : dropFinished (tl.setTrack s.t) t.id = tl.setTrack s.t := by
          rw [dropFinished, hfind1]; exact if_neg hfin
        rw [hdrop, if_neg hfin, i2]
        exact ⟨by rw [i1]; simp, rfl, i3⟩

/-- `b` is `a` with another track list (stated as "`b` with `a`'s tracks is `a`", which is the form `Stable` can carry
    through a tick; `SameRest.tl_eq` turns it round). -/
def SameRest (a b : TL) : Prop := { b with tracks := a.tracks } = a

theorem SameRest.refl (a : TL) : SameRest a a := rfl

theorem SameRest.tl_eq {a b : TL} (h : SameRest a b) : b = { a with tracks := b.tracks } :=
  congrArg (fun x : TL => { x with tracks := b.tracks }) h

theorem sameRest_stable {W : World} (hW : NoActions W) (tl0 : TL) : Stable W (SameRest tl0) where
  setTrack _ h := h
  removeTrack _ h := h
  script hw := (hW _ _ _ _ _ _ hw).elim

/-- The effect of one due start action on one track. -/
def startIf (q : Nat) (a : PAct) (t : Track) : Track := if t.id = a.tid then t.start q a.sid else t

/-- The effect of the due start actions (request order) on one track. -/
def applyStarts (q : Nat) (as : List PAct) (t : Track) : Track := as.foldl (fun t a => startIf q a t) t

theorem applyStarts_frame (q : Nat) (as : List PAct) (t : Track) :
    ∃ s p b n, applyStarts q as t = { t with sid := s, pos := p, started := b, nxt := n } := by
  unfold applyStarts
  induction as generalizing t with
  | nil => exact ⟨_, _, _, _, rfl⟩
  | cons a as ih =>
    obtain ⟨s, p, b, n, h⟩ := ih (startIf q a t)
    rw [List.foldl_cons, h, startIf]
    split <;> exact ⟨_, _, _, _, rfl⟩

theorem applyStarts_id (q : Nat) (as : List PAct) (t : Track) : (applyStarts q as t).id = t.id := by
  obtain ⟨_, _, _, _, h⟩ := applyStarts_frame q as t
  rw [h]

theorem map_startIf_of_no_match {q : Nat} {a : PAct} {ts : List Track} (h : ∀ u ∈ ts, u.id ≠ a.tid) :
    ts.map (startIf q a) = ts :=
  (List.map_congr_left fun u hu => if_neg (h u hu)).trans (List.map_id' ts)

theorem fireOne_tracks (tl : TL) (a : PAct) (hnd : (tl.tracks.map Track.id).Nodup) :
    (fireOne tl a).tracks = tl.tracks.map (startIf tl.q a) := by
  cases hf : tl.find a.tid with
  | none => rw [fireOne, hf]; exact (map_startIf_of_no_match (findTrack_eq_none.mp hf)).symm
  | some t =>
    obtain ⟨x, y, hts, hx, ht⟩ := findTrack_split hf
    have hy : ∀ u ∈ y, u.id ≠ a.tid := fun u hu heq => by
      rw [hts, List.map_append, List.map_cons] at hnd
      exact (List.nodup_cons.mp (List.nodup_append.mp hnd).2.1).1 (ht ▸ heq ▸ List.mem_map_of_mem hu)
    rw [fireOne, hf]
    show setFirst (t.start tl.q a.sid) tl.tracks = _
    rw [hts, setFirst_at (t := t.start tl.q a.sid) (u := t) (ht.symm ▸ hx) rfl, List.map_append, List.map_cons,
      map_startIf_of_no_match hx, map_startIf_of_no_match hy, startIf, if_pos ht]

theorem foldl_fireOne_tracks (as : List PAct) (tl : TL) (hnd : (tl.tracks.map Track.id).Nodup) :
    (as.foldl fireOne tl).tracks = tl.tracks.map (applyStarts tl.q as) ∧
    ((as.foldl fireOne tl).tracks.map Track.id) = tl.tracks.map Track.id := by
  induction as generalizing tl with
  | nil => exact ⟨(List.map_id' _).symm, rfl⟩
  | cons a as ih =>
    have h1 := fireOne_tracks tl a hnd
    have hids : (fireOne tl a).tracks.map Track.id = tl.tracks.map Track.id := by
      rw [h1, List.map_map]
      exact List.map_congr_left fun t _ => by rw [Function.comp, startIf]; split <;> rfl
    have hq : (fireOne tl a).q = tl.q := by rw [fireOne]; split <;> rfl
    obtain ⟨i1, i2⟩ := ih (fireOne tl a) (hids ▸ hnd)
    exact ⟨by rw [List.foldl_cons, i1, h1, hq, List.map_map]; rfl, i2.trans hids⟩

end IsobarV.Sched

namespace IsobarV.C07
open IsobarV.Sched

/-- The tracks at the start of the event phase, after the note-off phase and the due starts of this tick: each a
    function of that track, the tick length and the due start actions only. -/
def prepared (tl : TL) : List Track :=
  (tl.tracks.map (Track.processOffs tl.q)).map (applyStarts tl.q (tl.actions.filter (PAct.due tl)))

theorem prepared_ids (tl : TL) : (prepared tl).map Track.id = tl.tracks.map Track.id := by
  rw [prepared, List.map_map, List.map_map]
  exact List.map_congr_left fun _ _ => applyStarts_id ..

theorem prepared_pointwise (tl : TL) :
    prepared tl = tl.tracks.map (fun t => applyStarts tl.q (tl.actions.filter (PAct.due tl)) (t.processOffs tl.q)) := by
  simp [prepared, List.map_map, Function.comp_def]

theorem fireActions_phaseOffs {W : World} (hW : NoActions W) (tl : TL) (hnd : (tl.tracks.map Track.id).Nodup) :
    fireActions (phaseOffs tl) = { tl with actions := tl.actions.filter (fun a => ! PAct.due tl a), tracks := prepared tl } := by
  have hids : (phaseOffs tl).tracks.map Track.id = tl.tracks.map Track.id :=
    (List.map_map ..).trans (List.map_congr_left fun _ _ => rfl)
  have htr := (foldl_fireOne_tracks ((phaseOffs tl).actions.filter (PAct.due (phaseOffs tl))) (phaseOffs tl) (hids ▸ hnd)).1
  have hrest := ((sameRest_stable hW (phaseOffs tl)).of_fireOnes ((phaseOffs tl).actions.filter (PAct.due (phaseOffs tl)))
    (SameRest.refl _)).tl_eq
  rw [fireActions, hrest, htr]
  rfl

theorem phaseTracks_all_solo (W : World) (hW : NoActions W) (tl : TL) (hnd : (tl.tracks.map Track.id).Nodup) :
    phaseTracks W tl (tl.tracks.map Track.id) =
      { tl := { tl with tracks := (soloPhase W tl.q tl.tolerant tl.tracks).tracks },
        calls := (soloPhase W tl.q tl.tolerant tl.tracks).calls, res := (soloPhase W tl.q tl.tolerant tl.tracks).res } := by
  obtain ⟨p1, p2, p3⟩ := phaseTracks_solo W hW tl.q tl.tolerant tl.tracks [] tl rfl rfl rfl hnd
  have hrest := ((sameRest_stable hW tl).of_phaseTracks (tl.tracks.map Track.id) (SameRest.refl tl)).tl_eq
  rw [← p2, ← p3, ← show _ = (soloPhase W tl.q tl.tolerant tl.tracks).tracks from p1]
  exact congrArg (fun x : TL => (⟨x, _, _⟩ : TickRes)) hrest

/-- Without callbacks and with unique track identities, the whole track phase of a tick — the timeline it
    leaves, its calls, how it ends — is the per-track phase of the prepared tracks. -/
theorem phase_solo (W : World) (hW : NoActions W) (tl : TL) (hnd : (tl.tracks.map Track.id).Nodup) :
    phaseTracks W (fireActions (phaseOffs tl)) ((fireActions (phaseOffs tl)).tracks.map Track.id) =
      { tl := { tl with actions := tl.actions.filter (fun a => ! PAct.due tl a),
                        tracks := (soloPhase W tl.q tl.tolerant (prepared tl)).tracks },
        calls := (soloPhase W tl.q tl.tolerant (prepared tl)).calls,
        res := (soloPhase W tl.q tl.tolerant (prepared tl)).res } := by
  rw [fireActions_phaseOffs hW tl hnd]
  exact phaseTracks_all_solo W hW _ ((prepared_ids tl).symm ▸ hnd)

end IsobarV.C07

namespace IsobarV.Sched
open IsobarV.C07

/-- What a timeline tick does to everything but the track list: the time advances by one tick and the due start
    actions are consumed, whichever tracks are scheduled. -/
theorem tickTL_frame (W : World) (hW : NoActions W) (tl : TL) (hnd : (tl.tracks.map Track.id).Nodup)
    (hres : (soloPhase W tl.q tl.tolerant (prepared tl)).res = .ok) (hs : tl.stopWhenDone = false) :
    (tickTL W tl).res = .ok ∧
    (tickTL W tl).tl = { tl with now := tl.now + 1, actions := tl.actions.filter (fun a => ! PAct.due tl a),
                                  tracks := (soloPhase W tl.q tl.tolerant (prepared tl)).tracks } := by
  rw [tickTL, phase_solo W hW tl hnd, endOfTick]
  simp only [hres, hs, Bool.false_eq_true, and_false, if_false]
  exact ⟨trivial, trivial⟩

end IsobarV.Sched
