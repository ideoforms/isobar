/-
What the operations of the scheduler model leave alone.

* The first track with a given id splits the track list (`findTrack_split`); `setFirst` and `eraseFirst`
  act at that split and nowhere else.
* A pull has three outcomes (`getNext_cases`); the pull loop is reasoned about by `pullLoop_inv`.  It changes
  only the cursor, the event count and the next event time of a track record (`pullLoop_frame`), what it
  returns is the result of one of its pulls unless none was due or the fuel ran out (`pullLoop_res`), and an event
  among the world's (`pullLoop_ev`).
* The track phase ends in one of three ways (`phaseTracks_res`), and so does the tick (`endOfTick_cases`,
  `tickTL_cases`: the lemma through which proofs about `tickTL` go).
* A property of the timeline that survives writing a track back, removing a track and the callback scripts
  of the world survives the action phase and the track phase of a tick (`Stable`), and the whole tick if it
  reads neither the pending starts nor the time and the note-off phase keeps it (`Stable.of_tickTL`).  The configuration fields `q`,
  `tolerant`, `now` are stable in every world (`SameCfg`).
* An API call keeps these three fields and edits the track list in one of five ways (`Edit`, `applyOp_edit`).
* `cdiv time q` is the first tick at or after `time` (`C02.cdiv_spec`, `C02.first_due_tick`).
-/
import IsobarV.Sched.Model

namespace IsobarV.Sched

theorem findTrack_eq_none {tid : Nat} {ts : List Track} : findTrack tid ts = none ↔ ∀ v ∈ ts, v.id ≠ tid := by
  induction ts with
  | nil => simp [findTrack]
  | cons v vs ih =>
    rw [findTrack, List.forall_mem_cons, ← ih]
    by_cases h : v.id = tid <;> simp [h]

theorem findTrack_split {tid : Nat} {ts : List Track} {u : Track} (h : findTrack tid ts = some u) :
    ∃ a b, ts = a ++ u :: b ∧ (∀ v ∈ a, v.id ≠ tid) ∧ u.id = tid := by
  induction ts with
  | nil => cases h
  | cons v vs ih =>
    by_cases hv : v.id = tid
    · rw [findTrack, if_pos hv] at h
      cases h
      exact ⟨[], vs, rfl, fun _ hx => (List.not_mem_nil hx).elim, hv⟩
    · rw [findTrack, if_neg hv] at h
      obtain ⟨a, b, rfl, ha, hu⟩ := ih h
      exact ⟨v :: a, b, rfl, List.forall_mem_cons.mpr ⟨hv, ha⟩, hu⟩

section Split
variable {tid : Nat} {t u : Track} {a b : List Track}

theorem findTrack_at (ha : ∀ v ∈ a, v.id ≠ tid) (hu : u.id = tid) : findTrack tid (a ++ u :: b) = some u := by
  induction a with
  | nil => exact if_pos hu
  | cons v vs ih =>
    rw [List.forall_mem_cons] at ha
    rw [List.cons_append, findTrack, if_neg ha.1, ih ha.2]

theorem setFirst_at (ha : ∀ v ∈ a, v.id ≠ t.id) (hu : u.id = t.id) : setFirst t (a ++ u :: b) = a ++ t :: b := by
  induction a with
  | nil => exact if_pos hu
  | cons v vs ih =>
    rw [List.forall_mem_cons] at ha
    rw [List.cons_append, setFirst, if_neg ha.1, ih ha.2, List.cons_append]

theorem eraseFirst_at (ha : ∀ v ∈ a, v.id ≠ tid) (hu : u.id = tid) : eraseFirst tid (a ++ u :: b) = a ++ b := by
  induction a with
  | nil => exact if_pos hu
  | cons v vs ih =>
    rw [List.forall_mem_cons] at ha
    rw [List.cons_append, eraseFirst, if_neg ha.1, ih ha.2, List.cons_append]

end Split

/-- Writing back a track whose id is not in the list changes nothing. -/
theorem pendTracks_setFirst_none {t : Track} {ts : List Track} (h : findTrack t.id ts = none) :
    setFirst t ts = ts := by
  induction ts with
  | nil => rfl
  | cons v vs ih =>
    rw [findTrack_eq_none, List.forall_mem_cons] at h
    rw [setFirst, if_neg h.1, ih (findTrack_eq_none.mpr h.2)]

theorem eraseFirst_none {tid : Nat} {ts : List Track} (h : findTrack tid ts = none) :
    eraseFirst tid ts = ts := by
  induction ts with
  | nil => rfl
  | cons v vs ih =>
    rw [findTrack_eq_none, List.forall_mem_cons] at h
    rw [eraseFirst, if_neg h.1, ih (findTrack_eq_none.mpr h.2)]

theorem findTrack_id {tid : Nat} {ts : List Track} {u : Track} (h : findTrack tid ts = some u) : u.id = tid :=
  let ⟨_, _, _, _, hu⟩ := findTrack_split h; hu

theorem findTrack_mem {tid : Nat} {ts : List Track} {u : Track} (h : findTrack tid ts = some u) : u ∈ ts := by
  obtain ⟨a, b, rfl, _, _⟩ := findTrack_split h
  exact List.mem_append_right _ (List.mem_cons_self ..)

theorem findTrack_setFirst {t u : Track} {ts : List Track} (h : findTrack t.id ts = some u) :
    findTrack t.id (setFirst t ts) = some t := by
  obtain ⟨a, b, rfl, ha, hu⟩ := findTrack_split h
  rw [setFirst_at ha hu, findTrack_at ha rfl]

theorem setFirst_self {t : Track} {ts : List Track} (h : findTrack t.id ts = some t) : setFirst t ts = ts := by
  obtain ⟨a, b, hts, ha, hu⟩ := findTrack_split h
  rw [hts, setFirst_at ha hu]

theorem setFirst_cases (t : Track) (ts : List Track) :
    setFirst t ts = ts ∨ ∃ a u b, ts = a ++ u :: b ∧ setFirst t ts = a ++ t :: b ∧ (∀ v ∈ a, v.id ≠ t.id) ∧ u.id = t.id := by
  cases h : findTrack t.id ts with
  | none => exact Or.inl (pendTracks_setFirst_none h)
  | some u =>
    obtain ⟨a, b, rfl, ha, hu⟩ := findTrack_split h
    exact Or.inr ⟨a, u, b, rfl, setFirst_at ha hu, ha, hu⟩

theorem eraseFirst_cases (tid : Nat) (ts : List Track) :
    eraseFirst tid ts = ts ∨ ∃ a u b, ts = a ++ u :: b ∧ eraseFirst tid ts = a ++ b := by
  cases h : findTrack tid ts with
  | none => exact Or.inl (eraseFirst_none h)
  | some u =>
    obtain ⟨a, b, rfl, ha, hu⟩ := findTrack_split h
    exact Or.inr ⟨a, u, b, rfl, eraseFirst_at ha hu⟩

theorem setFirst_setFirst {x y : Track} (ts : List Track) (hxy : x.id = y.id) :
    setFirst y (setFirst x ts) = setFirst y ts := by
  rcases setFirst_cases x ts with h | ⟨a, u, b, rfl, h, ha, hu⟩
  · rw [h]
  · rw [h, setFirst_at (hxy ▸ ha) hxy, setFirst_at (hxy ▸ ha) (hu.trans hxy)]

theorem eraseFirst_setFirst (t : Track) (ts : List Track) :
    eraseFirst t.id (setFirst t ts) = eraseFirst t.id ts := by
  rcases setFirst_cases t ts with h | ⟨a, u, b, rfl, h, ha, hu⟩
  · rw [h]
  · rw [h, eraseFirst_at ha rfl, eraseFirst_at ha hu]

theorem length_setFirst (t : Track) (ts : List Track) : (setFirst t ts).length = ts.length := by
  rcases setFirst_cases t ts with h | ⟨a, u, b, rfl, h, _⟩
  · rw [h]
  · rw [h]; simp

theorem length_eraseFirst_le (tid : Nat) (ts : List Track) : (eraseFirst tid ts).length ≤ ts.length := by
  rcases eraseFirst_cases tid ts with h | ⟨a, u, b, rfl, h⟩
  · rw [h]; exact Nat.le_refl _
  · rw [h]; simp

theorem mem_setFirst {x t : Track} {ts : List Track} (h : x ∈ setFirst t ts) : x = t ∨ x ∈ ts := by
  rcases setFirst_cases t ts with e | ⟨a, u, b, rfl, e, _⟩
  · exact Or.inr (e ▸ h)
  · rw [e] at h
    simp only [List.mem_append, List.mem_cons] at h ⊢
    rcases h with h | h | h
    · exact Or.inr (Or.inl h)
    · exact Or.inl h
    · exact Or.inr (Or.inr (Or.inr h))

theorem mem_eraseFirst {x : Track} {tid : Nat} {ts : List Track} (h : x ∈ eraseFirst tid ts) : x ∈ ts := by
  rcases eraseFirst_cases tid ts with e | ⟨a, u, b, rfl, e⟩
  · exact e ▸ h
  · rw [e] at h
    simp only [List.mem_append, List.mem_cons] at h ⊢
    exact h.imp id (fun h => Or.inr h)

theorem find_self_id {tl : TL} {tid : Nat} {t : Track} (h : tl.find tid = some t) : tl.find t.id = some t := by
  rw [findTrack_id h]; exact h

theorem find_setTrack {tl : TL} {t u : Track} (h : tl.find t.id = some u) :
    (tl.setTrack t).find t.id = some t :=
  findTrack_setFirst h

theorem setTrack_self {tl : TL} {t : Track} (h : tl.find t.id = some t) : tl.setTrack t = tl := by
  rw [TL.setTrack, setFirst_self h]

theorem setTrack_setTrack (tl : TL) {x y : Track} (hxy : x.id = y.id) :
    (tl.setTrack x).setTrack y = tl.setTrack y := by
  simp only [TL.setTrack, setFirst_setFirst _ hxy]

/-- The three outcomes of a pull, each with the track it leaves and what in the world caused it. -/
theorem getNext_cases (W : World) (t : Track) :
    (t.getNext W = ⟨t, .stop⟩ ∧ ((t.maxCount ≠ 0 ∧ t.maxCount ≤ t.count) ∨ W t.sid t.pos = none)) ∨
    (∃ p, t.getNext W = ⟨{ t with pos := p }, .raised⟩ ∧ (W t.sid t.pos = some .patFault ∨ W t.sid t.pos = some .evFault)) ∨
    (∃ d a k, t.getNext W = ⟨{ t with pos := t.pos + 1, count := t.count + 1 }, .ev d a k⟩ ∧
      W t.sid t.pos = some (.ev d a k) ∧ ¬ (t.maxCount ≠ 0 ∧ t.maxCount ≤ t.count)) := by
  unfold Track.getNext
  by_cases hlim : t.maxCount ≠ 0 ∧ t.maxCount ≤ t.count
  · rw [if_pos hlim]; exact Or.inl ⟨rfl, Or.inl hlim⟩
  · rw [if_neg hlim]
    cases hw : W t.sid t.pos with
    | none => exact Or.inl ⟨rfl, Or.inr rfl⟩
    | some it =>
      cases it with
      | patFault => exact Or.inr (Or.inl ⟨t.pos, rfl, Or.inl rfl⟩)
      | evFault => exact Or.inr (Or.inl ⟨t.pos + 1, rfl, Or.inr rfl⟩)
      | ev d a k => exact Or.inr (Or.inr ⟨d, a, k, rfl, rfl, hlim⟩)

theorem getNext_frame (W : World) (t : Track) : ∃ p c, (t.getNext W).t = { t with pos := p, count := c } := by
  rcases getNext_cases W t with ⟨e, _⟩ | ⟨p, e, _⟩ | ⟨d, a, k, e, _⟩ <;> rw [e] <;> exact ⟨_, _, rfl⟩

theorem getNext_ev {W : World} {t : Track} {d : Nat} {a : Bool} {k : EvKind}
    (h : (t.getNext W).r = .ev d a k) : W t.sid t.pos = some (.ev d a k) := by
  rcases getNext_cases W t with ⟨e, _⟩ | ⟨p, e, _⟩ | ⟨d', a', k', e, hw, _⟩ <;> rw [e] at h <;> cases h
  exact hw

/-- Induction over the pull loop.  `I`: what every pull keeps, whatever the next event time; `S`: what holds of a track
    whose pull was a StopIteration.  The last hypothesis is there because a loop entered with `last = .stop` on a track
    that is not due returns `.stop` without a pull. -/
theorem pullLoop_inv {W : World} {q : Nat} {I S : Track → Prop}
    (hg : ∀ t, I t → I (t.getNext W).t ∧ ((t.getNext W).r = .stop → S (t.getNext W).t))
    (hn : ∀ t n, I t → I { t with nxt := n }) :
    ∀ (fuel : Nat) (t : Track) (last : Pull), I t → (last = .stop → t.nxt ≤ (t.cur * q : Nat) ∨ S t) →
      I (Track.pullLoop W q fuel t last).t ∧
      ((Track.pullLoop W q fuel t last).r = .stop → S (Track.pullLoop W q fuel t last).t) := by
  intro fuel
  induction fuel with
  | zero => exact fun t last h _ => ⟨h, fun hr => nomatch hr⟩
  | succ n ih =>
    intro t last h hlast
    obtain ⟨g1, g2⟩ := hg t h
    simp only [Track.pullLoop]
    split
    · split
      · exact ih _ _ (hn _ _ g1) (fun hh => nomatch hh)
      · exact ⟨g1, fun _ => g2 ‹_›⟩
      · exact ⟨g1, fun hr => nomatch hr⟩
      · exact ⟨g1, fun hr => nomatch hr⟩
    · exact ⟨h, fun hr => (hlast hr).resolve_left ‹_›⟩

theorem pullLoop_frame (W : World) (q fuel : Nat) (t : Track) (last : Pull) :
    ∃ p c n, (Track.pullLoop W q fuel t last).t = { t with pos := p, count := c, nxt := n } :=
  (pullLoop_inv (q := q) (I := fun u => ∃ p c n, u = { t with pos := p, count := c, nxt := n }) (S := fun _ => True)
    (fun u ⟨p, c, n, hu⟩ => have ⟨p', c', hg⟩ := getNext_frame W u; ⟨⟨p', c', n, by rw [hg, hu]⟩, fun _ => trivial⟩)
    (fun u n' ⟨p, c, n, hu⟩ => ⟨p, c, n', by rw [hu]⟩) fuel t last ⟨_, _, _, rfl⟩ (fun _ => Or.inr trivial)).1

/-- What the pull loop returns is the result of one of its pulls, unless no pull was due (`last`) or the fuel ran out. -/
theorem pullLoop_res (W : World) (q fuel : Nat) (t : Track) (last : Pull) :
    (Track.pullLoop W q fuel t last).r = last ∨ (Track.pullLoop W q fuel t last).r = .diverged ∨
    ∃ u : Track, (Track.pullLoop W q fuel t last).r = (u.getNext W).r := by
  induction fuel generalizing t last with
  | zero => exact Or.inr (Or.inl rfl)
  | succ n ih =>
    simp only [Track.pullLoop]
    split
    · split
      · rename_i hg
        exact (ih _ _).elim (fun h => Or.inr (Or.inr ⟨t, h.trans hg.symm⟩)) Or.inr
      all_goals exact Or.inr (Or.inr ⟨t, (‹_ = _› : (t.getNext W).r = _).symm⟩)
    · exact Or.inl rfl

/-- The event a tick performs (the loop starts from `.stop`) is one of the world's.  The conclusion forgets that the
    stream is the track's: the predicates on worlds that use it (`Stable.script`, `NoActions`, `C02.WorldWF`) speak of
    every stream anyway. -/
theorem pullLoop_ev {W : World} {q fuel : Nat} {t : Track} {d : Nat} {a : Bool} {k : EvKind}
    (h : (Track.pullLoop W q fuel t .stop).r = .ev d a k) : ∃ sid pos, W sid pos = some (.ev d a k) := by
  rcases pullLoop_res W q fuel t .stop with e | e | ⟨u, e⟩
  · exact nomatch e.symm.trans h
  · exact nomatch e.symm.trans h
  · exact ⟨_, _, getNext_ev (e.symm.trans h)⟩

theorem phaseTracks_res (W : World) (ids : List Nat) (tl : TL) :
    (phaseTracks W tl ids).res = .ok ∨ (phaseTracks W tl ids).res = .raised ∨ (phaseTracks W tl ids).res = .diverged := by
  induction ids generalizing tl with
  | nil => exact Or.inl rfl
  | cons tid rest ih =>
    simp only [phaseTracks]
    split
    · exact Or.inr (Or.inr rfl)
    · split
      · exact ih _
      · exact Or.inr (Or.inl rfl)
    · exact ih _

theorem endOfTick_cases (r : TickRes) :
    (r.res = .ok ∧ (r.tl.tracks = [] ∧ r.tl.actions = [] ∧ r.tl.stopWhenDone = true) ∧
      endOfTick r = { r with res := .stopIteration }) ∨
    (r.res = .ok ∧ ¬ (r.tl.tracks = [] ∧ r.tl.actions = [] ∧ r.tl.stopWhenDone = true) ∧
      endOfTick r = { r with tl := { r.tl with now := r.tl.now + 1 } }) ∨
    (r.res ≠ .ok ∧ endOfTick r = r) := by
  unfold endOfTick
  split
  · rename_i hr
    simp only [List.isEmpty_iff]
    split
    · exact Or.inl ⟨hr, ‹_›, rfl⟩
    · exact Or.inr (Or.inl ⟨hr, ‹_›, rfl⟩)
  · exact Or.inr (Or.inr ⟨‹_›, rfl⟩)

/-- How `Timeline.tick` ends, `r` being what its three phases leave: it stops because it is done, or the time
    advances, or the exception that escaped a track is passed on and the time stays. -/
theorem tickTL_cases (W : World) (tl : TL) :
    ∃ r, r = phaseTracks W (fireActions (phaseOffs tl)) ((fireActions (phaseOffs tl)).tracks.map Track.id) ∧
      (tickTL W tl).calls = phaseOffsCalls tl.q tl.tracks ++ r.calls ∧ (tickTL W tl).tl.tracks = r.tl.tracks ∧
      (((r.tl.tracks = [] ∧ r.tl.actions = [] ∧ r.tl.stopWhenDone = true) ∧
          (tickTL W tl).res = .stopIteration ∧ (tickTL W tl).tl = r.tl) ∨
       ((tickTL W tl).res = .ok ∧ (tickTL W tl).tl = { r.tl with now := r.tl.now + 1 }) ∨
       ((r.res = .raised ∨ r.res = .diverged) ∧ (tickTL W tl).res = r.res ∧ (tickTL W tl).tl = r.tl)) := by
  refine ⟨_, rfl, ?_⟩
  unfold tickTL
  generalize hr : phaseTracks W (fireActions (phaseOffs tl)) ((fireActions (phaseOffs tl)).tracks.map Track.id) = r
  have hres := hr ▸ phaseTracks_res W _ _
  rcases endOfTick_cases r with ⟨hr, hc, e⟩ | ⟨hr, hc, e⟩ | ⟨hr, e⟩
  · rw [e]; exact ⟨rfl, rfl, Or.inl ⟨hc, rfl, rfl⟩⟩
  · rw [e]; exact ⟨rfl, rfl, Or.inr (Or.inl ⟨hr, rfl⟩)⟩
  · rw [e]; exact ⟨rfl, rfl, Or.inr (Or.inr ⟨hres.resolve_left hr, rfl, rfl⟩)⟩

/-- `P` survives what the action phase and the track phase of a tick write to the timeline: a track written
    back, a track removed, and the scripts of the world's action events.  The note-off phase (which maps over
    the track list), the consumption of the due starts and the time increment are not covered: a `P` that
    they keep as well holds after the whole tick (`Stable.of_tickTL`). -/
structure Stable (W : World) (P : TL → Prop) : Prop where
  setTrack : ∀ {tl : TL} (t : Track), P tl → P (tl.setTrack t)
  removeTrack : ∀ {tl : TL} (tid : Nat), P tl → P (tl.removeTrack tid)
  script : ∀ {sid pos d a ops out}, W sid pos = some (.ev d a (.action ops out)) →
    ∀ {tl : TL}, P tl → P (applyOps tl ops).tl

section Stable
variable {W : World} {P : TL → Prop} (h : Stable W P) {tl : TL}
include h

theorem Stable.of_performEvent (t : Track) {d : Nat} {a : Bool} {k : EvKind}
    (hk : ∃ sid pos, W sid pos = some (.ev d a k)) (hP : P tl) : P (performEvent tl t d a k).tl := by
  unfold performEvent
  by_cases hq : a = false ∨ t.muted = true
  · rw [if_pos hq]; exact hP
  · rw [if_neg hq]
    cases k with
      | note vs => exact h.setTrack _ hP
      | control cc v ch bad => cases bad <;> exact hP
      | program p ch bad => cases bad <;> exact hP
      | action ops out => obtain ⟨sid, pos, hw⟩ := hk; exact h.script hw hP

theorem Stable.of_endTick (tid : Nat) (s : Bool) (hP : P tl) : P (endTick tl tid s) := by
  unfold endTick
  split
  · exact hP
  · exact h.setTrack _ hP

theorem Stable.of_tickTrack (tid : Nat) (hP : P tl) : P (tickTrack W tl tid).tl := by
  unfold tickTrack
  split
  · exact hP
  · rename_i t _
    split
    · exact hP
    · split
      · have hev := @pullLoop_ev W tl.q (t.fuel tl.q) t
        generalize Track.pullLoop W tl.q (t.fuel tl.q) t .stop = p at hev
        unfold afterPull
        split
        · exact h.setTrack _ hP
        · exact h.setTrack _ hP
        · exact h.of_endTick _ _ (h.setTrack _ hP)
        · rename_i hr
          have hp := h.of_performEvent p.t (hev hr) (h.setTrack p.t hP)
          split
          · exact hp
          · exact h.of_endTick _ _ hp
      · exact h.of_endTick _ _ hP

theorem Stable.of_dropFinished (tid : Nat) (hP : P tl) : P (dropFinished tl tid) := by
  unfold dropFinished
  split
  · split
    · exact h.removeTrack _ hP
    · exact hP
  · exact hP

theorem Stable.of_phaseTracks (ids : List Nat) (hP : P tl) : P (phaseTracks W tl ids).tl := by
  induction ids generalizing tl with
  | nil => exact hP
  | cons tid rest ih =>
    have h1 := h.of_tickTrack tid hP
    simp only [phaseTracks]
    split
    · exact h1
    · split
      · exact ih (h.removeTrack _ h1)
      · exact h1
    · exact ih (h.of_dropFinished _ h1)

theorem Stable.of_fireOnes (as : List PAct) (hP : P tl) : P (as.foldl fireOne tl) := by
  induction as generalizing tl with
  | nil => exact hP
  | cons a as ih =>
    apply ih
    unfold fireOne
    split
    · exact h.setTrack _ hP
    · exact hP

/-- A stable property that reads neither the pending starts nor the time holds after a whole tick as soon as the
    note-off phase keeps it. -/
theorem Stable.of_tickTL (hcfg : ∀ {x : TL} (as : List PAct) (n : Nat), P x → P { x with actions := as, now := n })
    (hP : P (phaseOffs tl)) : P (tickTL W tl).tl := by
  obtain ⟨r, hr, -, -, hc⟩ := tickTL_cases W tl
  have hfa : P (fireActions (phaseOffs tl)) := hcfg _ _ (h.of_fireOnes _ hP)
  have hr : P r.tl := hr ▸ h.of_phaseTracks _ hfa
  rcases hc with ⟨-, -, e⟩ | ⟨-, e⟩ | ⟨-, -, e⟩
  · rw [e]; exact hr
  · rw [e]; exact hcfg _ _ hr
  · rw [e]; exact hr

end Stable

/-- `b` has the tick length, the tolerance mode and the time of `a`: the three settings that neither an API call
    nor the first three phases of a tick change (the time moves at the very end of a tick only). -/
def SameCfg (a b : TL) : Prop := b.q = a.q ∧ b.tolerant = a.tolerant ∧ b.now = a.now

theorem SameCfg.refl (a : TL) : SameCfg a a := ⟨rfl, rfl, rfl⟩
theorem SameCfg.trans {a b c : TL} (h1 : SameCfg a b) (h2 : SameCfg b c) : SameCfg a c :=
  ⟨h2.1.trans h1.1, h2.2.1.trans h1.2.1, h2.2.2.trans h1.2.2⟩

theorem sameCfg_updateTrack (tl : TL) (t : Track) (sid : Nat) (qz dl count) :
    SameCfg tl (tl.updateTrack t sid qz dl count) := ⟨rfl, rfl, rfl⟩

/-- `t'` is `t` with the same identity, pending note-offs and removal flags. -/
def SameNotes (t t' : Track) : Prop :=
  t'.id = t.id ∧ t'.offs = t.offs ∧ t'.finished = t.finished ∧ t'.rwd = t.rwd

theorem updateCore_sameNotes (tl : TL) (t : Track) (sid : Nat) (qz dl count) :
    SameNotes t (updateCore tl t sid qz dl count).t := by
  unfold updateCore
  cases count <;> (dsimp only; split) <;> exact ⟨rfl, rfl, rfl, rfl⟩

/-- What an API call does to the track list, with the device calls it makes: nothing; a track it found
    rewritten, with its identity, notes and flags kept; a new silent track put in while there is room (the
    condition is that of the model, on `tl.maxTracks`); a track it found removed and its notes released; all
    tracks removed and their notes released. -/
inductive Edit (tl : TL) : List Track → List Call → Prop
  | same : Edit tl tl.tracks []
  | modify {tid : Nat} {t t' : Track} : tl.find tid = some t → SameNotes t t' → Edit tl (setFirst t' tl.tracks) []
  | insert {a b : List Track} {x : Track} : a ++ b = tl.tracks → x.offs = [] → x.finished = false →
      ¬ (tl.maxTracks ≠ 0 ∧ tl.maxTracks ≤ tl.tracks.length) → Edit tl (a ++ x :: b) []
  | remove {tid : Nat} {t : Track} : tl.find tid = some t → Edit tl (eraseFirst tid tl.tracks) t.flushCalls
  | clear : Edit tl [] (tl.tracks.map Track.flushCalls).flatten

/-- The middle conjunct is what makes `Edit.insert`'s "while there is room" an invariant of histories: only
    `setMax` moves the limit (`Sched/LenInv.lean`). -/
theorem applyOp_edit (tl : TL) (op : Op) :
    SameCfg tl (applyOp tl op).tl ∧ ((applyOp tl op).tl.maxTracks = tl.maxTracks ∨ ∃ n, op = .setMax n) ∧
    Edit tl (applyOp tl op).tl.tracks (applyOp tl op).calls := by
  have same : SameCfg tl tl ∧ (tl.maxTracks = tl.maxTracks ∨ ∃ n, op = .setMax n) ∧ Edit tl tl.tracks [] :=
    ⟨SameCfg.refl tl, Or.inl rfl, .same⟩
  have fresh (a b : List Track) (hab : a ++ b = tl.tracks) {name c rwd sid qz dl}
      (hroom : ¬ (tl.maxTracks ≠ 0 ∧ tl.maxTracks ≤ tl.tracks.length)) :
      Edit tl (a ++ (updateCore tl (newTrack tl.nextId name c rwd) sid qz dl none).t :: b) [] :=
    let ⟨_, ho, hf, _⟩ := updateCore_sameNotes tl (newTrack tl.nextId name c rwd) sid qz dl none
    .insert hab ho hf hroom
  cases op with
  | schedule sid qz dl count rwd name replace =>
    simp only [applyOp]
    split
    · -- a track of that name exists: it is updated, then its count reset and unmuted
      rename_i t hex
      have hft : tl.find t.id = some t := by
        cases name with
        | none => cases hex
        | some n =>
          dsimp only at hex
          split at hex
          · split at hex
            · exact find_self_id hex
            · cases hex
          · cases hex
      have hs := updateCore_sameNotes tl t sid qz dl count
      have hu : (tl.updateTrack t sid qz dl count).find t.id = some (updateCore tl t sid qz dl count).t :=
        hs.1 ▸ find_setTrack (tl := tl) (hs.1 ▸ hft)
      simp only [hu]
      refine ⟨sameCfg_updateTrack tl t sid qz dl count, Or.inl rfl, ?_⟩
      show Edit tl (setFirst _ (setFirst (updateCore tl t sid qz dl count).t tl.tracks)) []
      rw [setFirst_setFirst (x := (updateCore tl t sid qz dl count).t) _ (by exact rfl)]
      exact .modify hft hs
    · split
      · exact same
      · exact ⟨⟨rfl, rfl, rfl⟩, Or.inl rfl, fresh _ [] (List.append_nil _) ‹_›⟩
  | scheduleAt idx sid qz dl count rwd =>
    simp only [applyOp]
    split
    · exact same
    · exact ⟨⟨rfl, rfl, rfl⟩, Or.inl rfl, fresh _ _ (List.take_append_drop idx _) ‹_›⟩
  | update tid sid qz dl count =>
    simp only [applyOp]
    cases hf : tl.find tid with
    | none => exact same
    | some t => exact ⟨⟨rfl, rfl, rfl⟩, Or.inl rfl, .modify hf (updateCore_sameNotes tl t sid qz dl count)⟩
  | unschedule tid =>
    simp only [applyOp]
    cases hf : tl.find tid with
    | none => exact same
    | some t => exact ⟨⟨rfl, rfl, rfl⟩, Or.inl rfl, .remove hf⟩
  | clear => exact ⟨⟨rfl, rfl, rfl⟩, Or.inl rfl, .clear⟩
  | mute tid | unmute tid | nudge tid _ =>
    simp only [applyOp]
    cases hf : tl.find tid with
    | none => exact same
    | some t => exact ⟨⟨rfl, rfl, rfl⟩, Or.inl rfl, .modify hf ⟨rfl, rfl, rfl, rfl⟩⟩
  | setMax n => exact ⟨⟨rfl, rfl, rfl⟩, Or.inr ⟨n, rfl⟩, .same⟩
  | setDefaults _ _ | setStopWhenDone _ | setLatency _ => exact same

theorem applyOps_cfg (tl : TL) (ops : List Op) : SameCfg tl (applyOps tl ops).tl := by
  induction ops generalizing tl with
  | nil => exact SameCfg.refl _
  | cons op ops ih =>
    simp only [applyOps]
    split
    · exact (applyOp_edit tl op).1.trans (ih _)
    · exact (applyOp_edit tl op).1

theorem sameCfg_stable (W : World) (tl0 : TL) : Stable W (SameCfg tl0) where
  setTrack _ h := h
  removeTrack _ h := h
  script _ _ h := h.trans (applyOps_cfg _ _)

end IsobarV.Sched

namespace IsobarV.C02
open IsobarV.Sched

theorem cdiv_spec (q time : Nat) (hq : 0 < q) :
    time ≤ cdiv time q * q ∧ ∀ c', c' < cdiv time q → c' * q < time := by
  unfold cdiv
  refine ⟨?_, fun c' hc' => ?_⟩
  · have := Nat.lt_div_mul_add (a := time + q - 1) hq; omega
  · have : (c' + 1) * q ≤ time + q - 1 := (Nat.le_div_iff_mul_le hq).mp hc'
    rw [Nat.add_mul] at this; omega

/-- `⌈time / q⌉` is the first tick at or after `time` (in units): `c` is that tick iff `time` has come at `c` and had
    not at any earlier tick.  It is the tick on which a note-off queued for `time` is released, and the tick on
    which a start scheduled for `time` fires. -/
theorem first_due_tick (q time c : Nat) (hq : 0 < q) :
    (time ≤ c * q ∧ ∀ c', c' < c → ¬ time ≤ c' * q) ↔ c = cdiv time q := by
  obtain ⟨s1, s2⟩ := cdiv_spec q time hq
  constructor
  · rintro ⟨h1, h2⟩
    rcases Nat.lt_trichotomy c (cdiv time q) with h | h | h
    · have := s2 c h; omega
    · exact h
    · exact absurd s1 (h2 _ h)
  · rintro rfl
    exact ⟨s1, fun c' hc' => Nat.not_le.mpr (s2 c' hc')⟩

end IsobarV.C02
