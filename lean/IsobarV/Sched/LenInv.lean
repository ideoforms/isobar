/-
With a constant non-zero `max_tracks`, no operation of the model — API call, callback script, track tick,
timeline tick — takes the number of tracks past the limit.
-/
import IsobarV.Sched.Fields

namespace IsobarV.Sched

def LenInv (m : Nat) (tl : TL) : Prop := tl.maxTracks = m ∧ tl.tracks.length ≤ m

def Op.isSetMax : Op → Bool
  | .setMax _ => true
  | _ => false

/-- No callback of the world changes the limit. -/
def NoSetMaxW (W : World) : Prop :=
  ∀ sid pos d a ops out, W sid pos = some (.ev d a (.action ops out)) → ∀ o ∈ ops, o.isSetMax = false

theorem LenInv.setTrack {m : Nat} {tl : TL} (t : Track) (h : LenInv m tl) : LenInv m (tl.setTrack t) :=
  ⟨h.1, length_setFirst t tl.tracks ▸ h.2⟩

theorem LenInv.removeTrack {m : Nat} {tl : TL} (tid : Nat) (h : LenInv m tl) : LenInv m (tl.removeTrack tid) :=
  ⟨h.1, Nat.le_trans (length_eraseFirst_le tid tl.tracks) h.2⟩

theorem Edit.length_le {m : Nat} {tl : TL} {ts : List Track} {cs : List Call} (hed : Edit tl ts cs) (hm : m ≠ 0)
    (h : LenInv m tl) : ts.length ≤ m := by
  cases hed with
  | same => exact h.2
  | modify => exact (h.setTrack _).2
  | insert hab _ _ hroom =>
    -- a new track is only added below the limit
    have hlt : ¬ m ≤ tl.tracks.length := fun hle => hroom ⟨h.1 ▸ hm, h.1 ▸ hle⟩
    rw [← hab, List.length_append] at hlt
    rw [List.length_append, List.length_cons]
    omega
  | remove => exact (h.removeTrack _).2
  | clear => exact Nat.zero_le m

theorem applyOp_len {m : Nat} (hm : m ≠ 0) (tl : TL) (op : Op) (h : LenInv m tl) (hop : op.isSetMax = false) :
    LenInv m (applyOp tl op).tl :=
  let ⟨_, hmax, hed⟩ := applyOp_edit tl op
  ⟨(hmax.resolve_right fun ⟨n, hn⟩ => by rw [hn] at hop; cases hop).trans h.1, hed.length_le hm h⟩

theorem applyOps_len {m : Nat} (hm : m ≠ 0) (ops : List Op) (tl : TL) (h : LenInv m tl)
    (hops : ∀ o ∈ ops, o.isSetMax = false) : LenInv m (applyOps tl ops).tl := by
  induction ops generalizing tl with
  | nil => exact h
  | cons op ops ih =>
    rw [List.forall_mem_cons] at hops
    have h1 := applyOp_len hm tl op h hops.1
    simp only [applyOps]
    split
    · exact ih _ h1 hops.2
    · exact h1

theorem lenInv_stable {m : Nat} (hm : m ≠ 0) {W : World} (hW : NoSetMaxW W) : Stable W (LenInv m) where
  setTrack t h := h.setTrack t
  removeTrack tid h := h.removeTrack tid
  script hw _ h := applyOps_len hm _ _ h (hW _ _ _ _ _ _ hw)

theorem tickTL_len {m : Nat} (hm : m ≠ 0) (W : World) (hW : NoSetMaxW W) (tl : TL) (h : LenInv m tl) :
    LenInv m (tickTL W tl).tl :=
  (lenInv_stable hm hW).of_tickTL (fun _ _ h => h)
    ⟨h.1, Nat.le_trans (Nat.le_of_eq (List.length_map _)) h.2⟩

end IsobarV.Sched
