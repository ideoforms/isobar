/-
C01, the float side of the clock: `Timeline.time_after_tick` (fix fb10b52).

    ticks = current_time * ticks_per_beat
    if abs(ticks - round(ticks)) < 1e-6:
        return (round(ticks) + 1) / ticks_per_beat
    return current_time + tick_duration

The scheduler model counts ticks in integers; the implementation keeps `current_time` in a float.  This
file models exactly the float-sensitive part over the rationals with an ABSTRACT rounding function `fl`
(the result of every float operation is `fl` of the exact result) of which only the standard relative
error bound `|fl x - x| ≤ ε |x|` is assumed — as a hypothesis, not an axiom (IEEE-754 double, round to
nearest: ε = 2⁻⁵³).  Theorem: after `k` ticks the time is `fl (k / tpb)` — the correctly rounded
quotient, the best any float clock can do — for every `k` with `k (2ε + ε²) < 10⁻⁶`
(ε = 2⁻⁵³: k < 4.5·10⁹ ticks, 54 days at 480 PPQN and 120 bpm); the error never accumulates.
The old code (`current_time += 1 / tpb`) has no such bound: it is the recurrence `t ↦ fl (t + fl (1 / tpb))`.
-/
import Mathlib.Tactic.Positivity
import Mathlib.Tactic.Ring
import Mathlib.Tactic.NormNum
import Mathlib.Data.Rat.Floor

namespace IsobarV.FloatTime

/-- `Timeline.time_after_tick` with every float operation rounded by `fl`. -/
def timeAfterTick (fl : ℚ → ℚ) (tpb : ℕ) (t : ℚ) : ℚ :=
  if |fl (t * tpb) - round (fl (t * tpb))| < 1 / 1000000 then fl (((round (fl (t * tpb)) + 1 : ℤ) : ℚ) / tpb)
  else fl (t + fl (1 / tpb))

/-- The clock after `k` ticks, started at 0. -/
def clock (fl : ℚ → ℚ) (tpb : ℕ) : ℕ → ℚ
  | 0 => 0
  | k + 1 => timeAfterTick fl tpb (clock fl tpb k)

theorem timeAfterTick_of_near (fl : ℚ → ℚ) (tpb : ℕ) (t : ℚ) (n : ℤ)
    (h : |fl (t * tpb) - n| < 1 / 1000000) :
    timeAfterTick fl tpb t = fl (((n : ℚ) + 1) / tpb) := by
  have hr : round (fl (t * tpb)) = n := by
    obtain ⟨h1, h2⟩ := abs_sub_lt_iff.mp (h.trans (by norm_num : (1 / 1000000 : ℚ) < 1 / 2))
    exact round_eq_iff.mpr ⟨(sub_lt_comm.mp h2).le, sub_lt_iff_lt_add'.mp h1⟩
  rw [timeAfterTick, hr, if_pos h, Int.cast_add, Int.cast_one]

theorem abs_fl_sub_le {fl : ℚ → ℚ} {ε : ℚ} (hε : 0 ≤ ε) (hfl : ∀ x, |fl x - x| ≤ ε * |x|)
    {x c δ : ℚ} (h : |x - c| ≤ δ) : |fl x - c| ≤ ε * (|c| + δ) + δ :=
  have hx : |x| ≤ |c| + δ := sub_le_iff_le_add'.mp ((abs_sub_abs_le_abs_sub x c).trans h)
  (abs_sub_le _ _ _).trans (add_le_add ((hfl x).trans (mul_le_mul_of_nonneg_left hx hε)) h)

/-- One step, from ANY time within relative error `ε` of `k / tpb` — in particular from the correctly
    rounded one — to the correctly rounded `(k + 1) / tpb`: the step forgets the error of its input. -/
theorem step_exact (fl : ℚ → ℚ) (ε : ℚ) (hε : 0 ≤ ε) (hfl : ∀ x, |fl x - x| ≤ ε * |x|)
    (tpb : ℕ) (htpb : 0 < tpb) (k : ℕ) (hk : (k : ℚ) * (2 * ε + ε ^ 2) < 1 / 1000000)
    (t : ℚ) (ht : |t - k / tpb| ≤ ε * |(k : ℚ) / tpb|) :
    timeAfterTick fl tpb t = fl (((k + 1 : ℕ) : ℚ) / tpb) := by
  -- in ticks: `t * tpb` is within `ε k` of `k`
  have ht' := mul_le_mul_of_nonneg_right ht (abs_nonneg (tpb : ℚ))
  rw [mul_assoc, ← abs_mul, ← abs_mul, sub_mul, div_mul_cancel₀ _ (Nat.cast_ne_zero.mpr htpb.ne'),
    Nat.abs_cast] at ht'
  have h : |fl (t * tpb) - (k : ℤ)| < 1 / 1000000 := by
    rw [Int.cast_natCast]
    refine (abs_fl_sub_le hε hfl ht').trans_lt (lt_of_eq_of_lt ?_ hk)
    rw [Nat.abs_cast]
    ring
  rw [timeAfterTick_of_near fl tpb t k h, Int.cast_natCast, Nat.cast_succ]

/-- **The tick time never drifts**: after `k` ticks the clock shows the correctly rounded `k / tpb`. -/
theorem clock_exact (fl : ℚ → ℚ) (ε : ℚ) (hε : 0 ≤ ε) (hfl : ∀ x, |fl x - x| ≤ ε * |x|) (h0 : fl 0 = 0)
    (tpb : ℕ) (htpb : 0 < tpb) (k : ℕ) (hk : (k : ℚ) * (2 * ε + ε ^ 2) < 1 / 1000000) :
    clock fl tpb k = fl ((k : ℚ) / tpb) := by
  induction k with
  | zero => rw [clock, Nat.cast_zero, zero_div, h0]
  | succ n ih =>
    have hn : (n : ℚ) * (2 * ε + ε ^ 2) < 1 / 1000000 :=
      (mul_le_mul_of_nonneg_right (Nat.cast_le.mpr n.le_succ) (by positivity)).trans_lt hk
    rw [clock, ih hn, step_exact fl ε hε hfl tpb htpb n hn _ (hfl _)]

/-- The hypotheses are satisfiable: exact arithmetic (`fl = id`, ε = 0) … -/
example : clock id 24 100000 = (100000 : ℚ) / 24 :=
  clock_exact id 0 le_rfl (by intro x; simp) rfl 24 (by norm_num) 100000 (by norm_num)

/-- … and the bound on `k` for doubles: ε = 2⁻⁵³ admits every `k ≤ 4·10⁹`. -/
example : ((4000000000 : ℕ) : ℚ) * (2 * (1 / 2 ^ 53) + (1 / 2 ^ 53) ^ 2) < 1 / 1000000 := by norm_num

end IsobarV.FloatTime
