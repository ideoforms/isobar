/-
Every API call, every callback script, every track tick and every timeline tick keeps the balance
on + pending-before = off + pending-after,  and never leaves a finished-and-removable track in the timeline.
-/
import IsobarV.Sched.Balance

namespace IsobarV.Sched
variable {nc : NC}

theorem flushAll_counts (ts : List Track) :
    onCount nc ((ts.map Track.flushCalls).flatten) = 0 ∧
    offCount nc ((ts.map Track.flushCalls).flatten) = pendTracks nc ts := by
  induction ts with
  | nil => exact ⟨rfl, rfl⟩
  | cons t ts ih => simp [Track.flushCalls, ih]

theorem Edit.bal {tl : TL} {ts : List Track} {cs : List Call} (h : Edit tl ts cs) (hA : AllFresh tl.tracks) :
    Bal nc tl cs { tl with tracks := ts } ∧ AllFresh ts := by
  cases h with
  | same => exact ⟨Bal.of_pend_eq rfl, hA⟩
  | modify hf hs =>
    obtain ⟨h1, h2, _⟩ := pend_modify (nc := nc) hf hs hA
    exact ⟨Bal.of_pend_eq h1, h2⟩
  | insert hts hx hfin _ =>
    obtain ⟨h1, h2⟩ := pend_insert (nc := nc) hts hx hfin hA
    exact ⟨Bal.of_pend_eq h1, h2⟩
  | @remove tid t hf =>
    have := Bal.flush (nc := nc) tl tid
    rw [flushOf, hf] at this
    exact ⟨this, hA.eraseFirst⟩
  | clear =>
    obtain ⟨f1, f2⟩ := flushAll_counts (nc := nc) tl.tracks
    exact ⟨by simp only [Bal, f1, f2, pend, pendTracks_nil]; omega, fun _ hx => nomatch hx⟩

theorem applyOp_bal (tl : TL) (op : Op) (hA : AllFresh tl.tracks) :
    Bal nc tl (applyOp tl op).calls (applyOp tl op).tl ∧ AllFresh (applyOp tl op).tl.tracks :=
  (applyOp_edit tl op).2.2.bal hA

theorem applyOps_bal (tl : TL) (ops : List Op) (hA : AllFresh tl.tracks) :
    Bal nc tl (applyOps tl ops).calls (applyOps tl ops).tl ∧ AllFresh (applyOps tl ops).tl.tracks := by
  induction ops generalizing tl with
  | nil => exact ⟨Bal.of_pend_eq rfl, hA⟩
  | cons op ops ih =>
    obtain ⟨h1, h1f⟩ := applyOp_bal (nc := nc) tl op hA
    simp only [applyOps]
    split
    · obtain ⟨h2, h2f⟩ := ih (applyOp tl op).tl h1f
      exact ⟨h1.trans h2, h2f⟩
    · exact ⟨h1, h1f⟩

theorem performVoices_counts (base : Nat) (vs : List Voice) :
    onCount nc (performVoices base vs).calls = pendOffs nc (performVoices base vs).offs ∧
    offCount nc (performVoices base vs).calls = 0 := by
  induction vs with
  | nil => exact ⟨rfl, rfl⟩
  | cons v vs ih =>
    rw [performVoices]
    by_cases hc : 0 < v.amp ∧ v.gpos = true
    · rw [if_pos hc]
      cases v.bad with
      | true => exact ⟨rfl, rfl⟩
      | false =>
        -- the note-on and the note-off queued for it are counted by the same test
        refine ⟨?_, ih.2⟩
        show List.countP _ (_ :: _) = List.countP _ (_ :: _)
        rw [List.countP_cons, List.countP_cons]
        exact congrArg (· + _) ih.1
    · rw [if_neg hc]; exact ih

theorem pullLoop_sameNotes (W : World) (q fuel : Nat) (t : Track) (last : Pull) :
    SameNotes t (Track.pullLoop W q fuel t last).t := by
  obtain ⟨p, c, n, h⟩ := pullLoop_frame W q fuel t last
  rw [h]; exact ⟨rfl, rfl, rfl, rfl⟩

theorem performEvent_bal (tl : TL) (t : Track) (d : Nat) (a : Bool) (k : EvKind)
    (hf : tl.find t.id = some t) (hA : AllFresh tl.tracks) :
    Bal nc tl (performEvent tl t d a k).calls (performEvent tl t d a k).tl ∧
    AllFresh (performEvent tl t d a k).tl.tracks := by
  have same : Bal nc tl [] tl ∧ AllFresh tl.tracks := ⟨Bal.of_pend_eq rfl, hA⟩
  have single (c : Call) (hon : c.isOn nc = false) (hoff : c.isOff nc = false) : Bal nc tl [c] tl := by
    simp [Bal, onCount, offCount, hon, hoff]
  unfold performEvent
  by_cases hq : a = false ∨ t.muted = true
  · rw [if_pos hq]; exact same
  · rw [if_neg hq]
    cases k with
    | note vs =>
      obtain ⟨h1, h2⟩ := performVoices_counts (nc := nc) (t.cur * tl.q) vs
      refine ⟨?_, hA.setFirst (show Fresh _ from (hA.find hf : Fresh t))⟩
      have := pend_setTrack (nc := nc) (t := { t with offs := t.offs ++ (performVoices (t.cur * tl.q) vs).offs }) hf
      simp only [pendOffs_append] at this
      simp only [Bal]; omega
    | control cc v ch bad => cases bad <;> first | exact same | exact ⟨single _ rfl rfl, hA⟩
    | program p ch bad => cases bad <;> first | exact same | exact ⟨single _ rfl rfl, hA⟩
    | action ops out => exact applyOps_bal tl ops hA

/-- After a track tick every track is fresh, except possibly the ticked one, which then carries no
    pending note-off: the timeline is all fresh, or `X.setTrack t'` for an all-fresh `X`.  `X.find tid ≠ none`
    says that the write really happened (`setFirst` on an absent id changes nothing), so that `dropFinished`
    finds `t'`, the track without pending note-offs, under `tid`. -/
def PostTick (tid : Nat) (tl' : TL) : Prop :=
  AllFresh tl'.tracks ∨
  ∃ (X : TL) (t' : Track), AllFresh X.tracks ∧ tl'.tracks = setFirst t' X.tracks ∧ t'.id = tid ∧ t'.offs = [] ∧
    X.find tid ≠ none

theorem endTick_bal (tl : TL) (tid : Nat) (stopped : Bool) (hA : AllFresh tl.tracks) :
    pend nc (endTick tl tid stopped) = pend nc tl ∧ PostTick tid (endTick tl tid stopped) := by
  unfold endTick
  split
  · exact ⟨rfl, Or.inl hA⟩
  · rename_i t hf
    refine ⟨Nat.add_right_cancel (pend_setTrack (nc := nc) (u := t) (find_self_id hf)), ?_⟩
    -- `Track.tick` marks the track finished only on a StopIteration with nothing pending: either that happened
    -- (second form of `PostTick`), or `finished` is what it was and the track is still fresh
    by_cases hfin : stopped = true ∧ t.offs = []
    · exact Or.inr ⟨tl, _, hA, rfl, (findTrack_id hf : t.id = tid), hfin.2, by rw [hf]; exact Option.some_ne_none t⟩
    · refine Or.inl (hA.setFirst fun h => hA.find hf ⟨?_, h.2⟩)
      have h1 := h.1
      cases stopped with
      | false => exact h1
      | true =>
        cases ho : t.offs with
        | nil => exact absurd ⟨rfl, ho⟩ hfin
        | cons o os => simpa [ho] using h1

theorem afterPull_bal (tl : TL) (tid : Nat) (t : Track) (p : PullRes) (hf : tl.find tid = some t)
    (hs : SameNotes t p.t) (hA : AllFresh tl.tracks) :
    Bal nc tl (afterPull tl tid p).calls (afterPull tl tid p).tl ∧ PostTick tid (afterPull tl tid p).tl ∧
    ((afterPull tl tid p).out ≠ .ok → AllFresh (afterPull tl tid p).tl.tracks) := by
  obtain ⟨hp1, hfr1, hfind⟩ := pend_modify (nc := nc) hf hs hA
  have hfind1 : (tl.setTrack p.t).find p.t.id = some p.t := by rw [hs.1, findTrack_id hf]; exact hfind
  unfold afterPull
  cases p.r with
  | raised => exact ⟨Bal.of_pend_eq hp1, Or.inl hfr1, fun _ => hfr1⟩
  | diverged => exact ⟨Bal.of_pend_eq hp1, Or.inl hfr1, fun _ => hfr1⟩
  | stop =>
    obtain ⟨e1, e2⟩ := endTick_bal (nc := nc) (tl.setTrack p.t) tid true hfr1
    exact ⟨Bal.of_pend_eq (e1.trans hp1), e2, fun h => absurd rfl h⟩
  | ev d a k =>
    obtain ⟨hb, hfp⟩ := performEvent_bal (nc := nc) (tl.setTrack p.t) p.t d a k hfind1 hfr1
    dsimp only
    generalize performEvent (tl.setTrack p.t) p.t d a k = e at hb hfp ⊢
    have hb' : Bal nc tl e.calls e.tl := (Bal.of_pend_eq (nc := nc) hp1).trans hb
    split
    · exact ⟨hb', Or.inl hfp, fun _ => hfp⟩
    · obtain ⟨e1, e2⟩ := endTick_bal (nc := nc) e.tl tid e.stopped hfp
      exact ⟨hb'.then e1, e2, fun h => absurd rfl h⟩

theorem tickTrack_bal (W : World) (tl : TL) (tid : Nat) (hA : AllFresh tl.tracks) :
    Bal nc tl (tickTrack W tl tid).calls (tickTrack W tl tid).tl ∧ PostTick tid (tickTrack W tl tid).tl ∧
    ((tickTrack W tl tid).out ≠ .ok → AllFresh (tickTrack W tl tid).tl.tracks) := by
  unfold tickTrack
  split
  · exact ⟨Bal.of_pend_eq rfl, Or.inl hA, fun _ => hA⟩
  · rename_i t hf
    split
    · exact ⟨Bal.of_pend_eq rfl, Or.inl hA, fun _ => hA⟩
    · split
      · exact afterPull_bal tl tid t _ hf (pullLoop_sameNotes W tl.q _ t .stop) hA
      · obtain ⟨e1, e2⟩ := endTick_bal (nc := nc) tl tid false hA
        exact ⟨Bal.of_pend_eq e1, e2, fun h => absurd rfl h⟩

theorem dropFinished_bal (tl : TL) (tid : Nat) (h : PostTick tid tl) :
    pend nc (dropFinished tl tid) = pend nc tl ∧ AllFresh (dropFinished tl tid).tracks := by
  unfold dropFinished
  -- all fresh: nothing is removed; otherwise the one track that may go is `t'`, which has nothing pending
  rcases h with hA | ⟨X, t', hX, htr, hid, hoffs, hne⟩
  · split
    · rename_i t hf
      rw [if_neg (hA.find hf)]
      exact ⟨rfl, hA⟩
    · exact ⟨rfl, hA⟩
  · obtain ⟨u, hu⟩ := Option.ne_none_iff_exists'.mp hne
    have hfind : tl.find tid = some t' := by
      rw [TL.find, htr, ← hid]; exact findTrack_setFirst (hid ▸ hu)
    simp only [hfind]
    split
    · constructor
      · have := pend_removeTrack (nc := nc) hfind
        rw [hoffs] at this; exact this
      · rw [TL.removeTrack, htr, ← hid, eraseFirst_setFirst]
        exact hX.eraseFirst
    · rename_i hc
      exact ⟨rfl, htr ▸ hX.setFirst hc⟩

theorem phaseTracks_bal (W : World) (ids : List Nat) (tl : TL) (hA : AllFresh tl.tracks) :
    Bal nc tl (phaseTracks W tl ids).calls (phaseTracks W tl ids).tl ∧ AllFresh (phaseTracks W tl ids).tl.tracks := by
  induction ids generalizing tl with
  | nil => exact ⟨Bal.of_pend_eq rfl, hA⟩
  | cons tid rest ih =>
    obtain ⟨hb, hpost, hraise⟩ := tickTrack_bal (nc := nc) W tl tid hA
    simp only [phaseTracks]
    split
    · rename_i ho; exact ⟨hb, hraise (by simp [ho])⟩
    · rename_i ho
      have hfr := hraise (by simp [ho])
      split
      · obtain ⟨ih1, ih2⟩ := ih _ (show AllFresh ((tickTrack W tl tid).tl.removeTrack tid).tracks from hfr.eraseFirst)
        exact ⟨(hb.trans (Bal.flush _ tid)).trans ih1, ih2⟩
      · exact ⟨hb, hfr⟩
    · obtain ⟨d1, d2⟩ := dropFinished_bal (nc := nc) _ tid hpost
      obtain ⟨ih1, ih2⟩ := ih _ d2
      exact ⟨(hb.then d1).trans ih1, ih2⟩

theorem phaseOffs_bal (tl : TL) (hA : AllFresh tl.tracks) :
    Bal nc tl (phaseOffsCalls tl.q tl.tracks) (phaseOffs tl) ∧ AllFresh (phaseOffs tl).tracks := by
  constructor
  · have key : ∀ ts : List Track, onCount nc (phaseOffsCalls tl.q ts) = 0 ∧
        pendTracks nc (ts.map (Track.processOffs tl.q)) + offCount nc (phaseOffsCalls tl.q ts) = pendTracks nc ts := by
      intro ts
      induction ts with
      | nil => exact ⟨rfl, rfl⟩
      | cons t ts ih =>
        have hs := List.countP_eq_countP_filter_add t.offs (NoteOff.is nc) (fun o => decide (o.time ≤ t.cur * tl.q))
        have e : (fun o : NoteOff => !decide (o.time ≤ t.cur * tl.q)) = (fun o => decide ¬ (o.time ≤ t.cur * tl.q)) := by
          funext o; exact (decide_not).symm
        rw [e] at hs
        simp only [phaseOffsCalls, List.map_cons, List.flatten_cons, offCount_append, onCount_append,
          pendTracks_cons, Track.processOffs, keepOffs, dueOffs, offCount_offCalls, onCount_offCalls, pendOffs] at *
        omega
    obtain ⟨k1, k2⟩ := key tl.tracks
    simp only [Bal, pend, phaseOffs, k1]; omega
  · intro x hx
    obtain ⟨t, ht, rfl⟩ := List.mem_map.mp hx
    exact hA t ht

theorem fireActions_bal (tl : TL) (hA : AllFresh tl.tracks) :
    pend nc (fireActions tl) = pend nc tl ∧ AllFresh (fireActions tl).tracks := by
  show pend nc (List.foldl fireOne tl _) = _ ∧ AllFresh (List.foldl fireOne tl _).tracks
  generalize tl.actions.filter (PAct.due tl) = as
  induction as generalizing tl with
  | nil => exact ⟨rfl, hA⟩
  | cons a as ih =>
    have h1 : pend nc (fireOne tl a) = pend nc tl ∧ AllFresh (fireOne tl a).tracks := by
      unfold fireOne
      split
      · rename_i t hf
        obtain ⟨m1, m2, _⟩ := pend_modify (nc := nc) (t' := t.start tl.q a.sid) hf ⟨rfl, rfl, rfl, rfl⟩ hA
        exact ⟨m1, m2⟩
      · exact ⟨rfl, hA⟩
    obtain ⟨i1, i2⟩ := ih (fireOne tl a) h1.2
    exact ⟨i1.trans h1.1, i2⟩

theorem tickTL_bal (W : World) (tl : TL) (hA : AllFresh tl.tracks) :
    Bal nc tl (tickTL W tl).calls (tickTL W tl).tl ∧ AllFresh (tickTL W tl).tl.tracks := by
  obtain ⟨b1, hA1⟩ := phaseOffs_bal (nc := nc) tl hA
  obtain ⟨p2, hA2⟩ := fireActions_bal (nc := nc) (phaseOffs tl) hA1
  obtain ⟨b3, hA3⟩ := phaseTracks_bal (nc := nc) W ((fireActions (phaseOffs tl)).tracks.map Track.id) _ hA2
  obtain ⟨r, rfl, hcalls, htracks, -⟩ := tickTL_cases W tl
  unfold Bal pend
  rw [hcalls, htracks]
  exact ⟨(b1.then p2).trans b3, hA3⟩

theorem step_bal (W : World) (tl : TL) (s : Step) (hA : AllFresh tl.tracks) :
    Bal nc tl (step W tl s).calls (step W tl s).tl ∧ AllFresh (step W tl s).tl.tracks := by
  -- `step` is unfolded first: the unifier would unfold `applyOp` and `tickTL` as well
  cases s with
  | op o => simp only [step]; exact applyOp_bal tl o hA
  | tick => simp only [step]; exact tickTL_bal W tl hA

theorem run_bal (W : World) (ss : List Step) (tl : TL) (hA : AllFresh tl.tracks) :
    Bal nc tl (run W tl ss).2 (run W tl ss).1 ∧ AllFresh (run W tl ss).1.tracks := by
  induction ss generalizing tl with
  | nil => exact ⟨Bal.of_pend_eq rfl, hA⟩
  | cons s ss ih =>
    obtain ⟨h1, h2⟩ := step_bal (nc := nc) W tl s hA
    obtain ⟨i1, i2⟩ := ih _ h2
    exact ⟨h1.trans i1, i2⟩

end IsobarV.Sched
