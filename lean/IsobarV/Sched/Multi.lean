/-
Worlds in which the per-track tick always ends normally (what the run theorems of C07 and C17 assume):

* worlds whose durations are at least one unit (`PosDur`) never make the pull loop run out of fuel
  (`soloTick_not_diverged`), so the `diverged` escape of the model is unreachable there;
* worlds without faults (`Faultless`) never make a track raise (`soloTick_not_raised`).
-/
import IsobarV.Sched.Solo

namespace IsobarV.Sched

/-- Every event of every stream lasts at least one time unit (the property's "durations of at least one
    tick" is stronger: a tick is `q ≥ 1` units). -/
def PosDur (W : World) : Prop := ∀ sid pos d a k, W sid pos = some (.ev d a k) → 0 < d

/-- No stream raises while it is evaluated, and no device call raises. -/
def Faultless (W : World) : Prop :=
  (∀ sid pos, W sid pos ≠ some .patFault) ∧ (∀ sid pos, W sid pos ≠ some .evFault) ∧
  (∀ sid pos d a vs, W sid pos = some (.ev d a (.note vs)) → ∀ v ∈ vs, v.bad = false) ∧
  (∀ sid pos d a cc v ch, W sid pos ≠ some (.ev d a (.control cc v ch true))) ∧
  (∀ sid pos d a p ch, W sid pos ≠ some (.ev d a (.program p ch true)))

/-- With durations of at least one unit, `fuel` iterations are enough as soon as `fuel` exceeds the
    number of units by which the track is behind. -/
theorem pullLoop_not_diverged (W : World) (hP : PosDur W) (q : Nat) :
    ∀ (fuel : Nat) (t : Track) (last : Pull), (last = .diverged → False) → 0 < fuel →
      ((t.cur * q : Nat) : Int) - t.nxt + 1 < fuel →
      (Track.pullLoop W q fuel t last).r = .diverged → False := by
  intro fuel
  induction fuel with
  | zero => intro t last _ h0; omega
  | succ n ih =>
    intro t last hlast _ hgap h
    simp only [Track.pullLoop] at h
    split at h
    · rename_i hdue
      split at h
      · rename_i d a k hg
        have hd := hP _ _ d a k (getNext_ev hg)
        obtain ⟨p, c, hf⟩ := getNext_frame W t
        refine ih _ _ (by intro hh; cases hh) (by omega) ?_ h
        rw [hf]
        show ((t.cur * q : Nat) : Int) - (t.nxt + d) + 1 < n
        omega
      · cases h
      · cases h
      · -- a pull itself never diverges
        rename_i hg
        rcases getNext_cases W t with ⟨e, _⟩ | ⟨p, e, _⟩ | ⟨d, a, k, e, _⟩ <;> rw [e] at hg <;> cases hg
    · exact hlast h

theorem soloTick_not_diverged (W : World) (hP : PosDur W) (q : Nat) (t : Track) :
    (soloTick W q t).out ≠ .diverged := by
  unfold soloTick
  split
  · exact nofun
  · split
    · have hnd := pullLoop_not_diverged W hP q (t.fuel q) t .stop nofun
        (by simp [Track.fuel]) (by simp only [Track.fuel]; push_cast; omega)
      generalize Track.pullLoop W q (t.fuel q) t .stop = p at hnd
      unfold soloAfterPull
      split
      · exact nofun
      · rename_i hr; exact absurd hr (fun h => hnd h)
      · exact nofun
      · split <;> exact nofun
    · exact nofun

theorem performVoices_not_raised (base : Nat) (vs : List Voice) (h : ∀ v ∈ vs, v.bad = false) :
    (performVoices base vs).raised = false := by
  induction vs with
  | nil => rfl
  | cons v vs ih =>
    have hv := h v (by simp)
    have ih' := ih (fun u hu => h u (by simp [hu]))
    simp only [performVoices]
    split
    · simp [hv, ih']
    · exact ih'

theorem pullLoop_not_raised (W : World) (hF : Faultless W) (q fuel : Nat) (t : Track) :
    (Track.pullLoop W q fuel t .stop).r = .raised → False := by
  intro h
  rcases pullLoop_res W q fuel t .stop with e | e | ⟨u, e⟩
  · exact nomatch e.symm.trans h
  · exact nomatch e.symm.trans h
  · -- one of the pulls raised: the world has a fault there
    rw [e] at h
    rcases getNext_cases W u with ⟨e', _⟩ | ⟨p, _, hw | hw⟩ | ⟨d, a, k, e', _⟩
    · exact nomatch (congrArg PullRes.r e').symm.trans h
    · exact hF.1 _ _ hw
    · exact hF.2.1 _ _ hw
    · exact nomatch (congrArg PullRes.r e').symm.trans h

theorem soloTick_not_raised (W : World) (hF : Faultless W) (q : Nat) (t : Track) :
    (soloTick W q t).out ≠ .raised := by
  unfold soloTick
  split
  · exact nofun
  · split
    · have hnr := pullLoop_not_raised W hF q (t.fuel q) t
      have hev := @pullLoop_ev W q (t.fuel q) t
      generalize Track.pullLoop W q (t.fuel q) t .stop = p at hnr hev
      unfold soloAfterPull
      split
      · rename_i hr; exact absurd hr (fun h => hnr h)
      · exact nofun
      · exact nofun
      · rename_i d a k hr
        obtain ⟨sid, pos, hw⟩ := hev hr
        have : (performSolo q p.t a k).raised = false := by
          unfold performSolo
          by_cases hq : a = false ∨ p.t.muted = true
          · rw [if_pos hq]
          · rw [if_neg hq]
            cases k with
            | note vs => exact performVoices_not_raised _ vs (hF.2.2.1 sid pos d a vs hw)
            | control cc v ch bad =>
              cases bad with
              | true => exact absurd hw (hF.2.2.2.1 sid pos d a cc v ch)
              | false => rfl
            | program pp ch bad =>
              cases bad with
              | true => exact absurd hw (hF.2.2.2.2 sid pos d a pp ch)
              | false => rfl
            | action ops out => rfl
        rw [this]
        exact nofun
    · exact nofun

theorem soloTick_ok {W : World} (hP : PosDur W) (hF : Faultless W) (q : Nat) (t : Track) : (soloTick W q t).out = .ok := by
  cases hout : (soloTick W q t).out with
  | ok => rfl
  | raised => exact absurd hout (soloTick_not_raised W hF q t)
  | diverged => exact absurd hout (soloTick_not_diverged W hP q t)

end IsobarV.Sched
