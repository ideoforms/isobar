/-
The evolution of a track's own clock (`cur`, `nxt`, `pos`) under the pull loop, for C01.
-/
import IsobarV.Sched.Fields

namespace IsobarV.Sched

/-- Cumulative ideal time of event `k`: the exact sum of the preceding durations. -/
def S (d : Nat → Nat) : Nat → Nat
  | 0 => 0
  | k + 1 => S d k + d k

/-- Tick `j` expressed in units. -/
def tm (q j : Nat) : Int := ((j * q : Nat) : Int)

theorem tm_succ (q j : Nat) : tm q (j + 1) = tm q j + q := by
  simp [tm, Nat.add_mul]

theorem tm_mono {q j j' : Nat} (h : j ≤ j') : tm q j ≤ tm q j' := by
  simp only [tm]; exact_mod_cast Nat.mul_le_mul_right q h

theorem tm_lt_step {q j j' : Nat} (h : j < j') : tm q j + q ≤ tm q j' := by
  have := tm_mono (q := q) (Nat.succ_le_of_lt h)
  rw [tm_succ] at this; exact this

/-- `j` is the first tick at or after the ideal time `T` (in units). -/
def FirstTick (q : Nat) (T : Int) (j : Nat) : Prop := T ≤ tm q j ∧ tm q j - q < T

theorem FirstTick.unique {q : Nat} {T : Int} {j j' : Nat} (h : FirstTick q T j) (h' : FirstTick q T j') : j = j' := by
  rcases Nat.lt_trichotomy j j' with hlt | heq | hgt
  · have := tm_lt_step (q := q) hlt; obtain ⟨a, b⟩ := h; obtain ⟨c, e⟩ := h'; omega
  · exact heq
  · have := tm_lt_step (q := q) hgt; obtain ⟨a, b⟩ := h; obtain ⟨c, e⟩ := h'; omega

theorem S_succ (d : Nat → Nat) (k : Nat) : S d (k + 1) = S d k + d k := rfl

theorem S_lt {d : Nat → Nat} {q : Nat} (hd : ∀ i, q ≤ d i) {k k' : Nat} (h : k < k') : S d k + q ≤ S d k' := by
  induction k' with
  | zero => omega
  | succ n ih =>
    rw [S_succ]
    rcases Nat.lt_succ_iff_lt_or_eq.mp h with h1 | rfl
    · have := ih h1; have := hd n; omega
    · have := hd k; omega

/-- The stream `sid` of `W` yields, from position 0 on, events with durations `d i` (an infinite
    stream; its events may be of any kind). -/
def HasDurs (W : World) (sid : Nat) (d : Nat → Nat) : Prop :=
  ∀ i, ∃ a k, W sid i = some (.ev (d i) a k)

/-- The clock part of one `Track.tick`: the pull loop (if an event is due) and the time increment.  Unlike
    `soloTick` it does not look at `started` and advances the time even when the pull raises; on a started
    track in a tick that ends normally the two move the clock fields alike (`C01.solo_clock`). -/
def clockTick (W : World) (q : Nat) (t : Track) : Track :=
  if t.nxt ≤ (t.cur * q : Nat) then
    { (Track.pullLoop W q (t.fuel q) t .stop).t with cur := (Track.pullLoop W q (t.fuel q) t .stop).t.cur + 1 }
  else { t with cur := t.cur + 1 }

/-- The index (position in its stream) of the event performed in this tick, if any: the last event pulled, which
    sits one before the cursor (with durations of at least a tick it is the only one pulled). -/
def fired (W : World) (q : Nat) (t : Track) : Option Nat :=
  if t.nxt ≤ (t.cur * q : Nat) then
    match (Track.pullLoop W q (t.fuel q) t .stop).r with
    | .ev _ _ _ => some ((Track.pullLoop W q (t.fuel q) t .stop).t.pos - 1)
    | _ => none
  else none

def clockRun (W : World) (q : Nat) (t : Track) : Nat → Track
  | 0 => t
  | n + 1 => clockTick W q (clockRun W q t n)

/-- One pull suffices when the event is due, not overdue by a whole tick, and lasts at least a tick. -/
theorem pullLoop_once (W : World) (q : Nat) (t : Track) (last : Pull) (fuel : Nat) (d : Nat) (a : Bool) (k : EvKind)
    (hW : W t.sid t.pos = some (.ev d a k)) (hmax : t.maxCount = 0)
    (hdue : t.nxt ≤ (t.cur * q : Nat)) (hnext : ((t.cur * q : Nat) : Int) < t.nxt + d) :
    Track.pullLoop W q (fuel + 2) t last =
      { t := { t with pos := t.pos + 1, count := t.count + 1, nxt := t.nxt + d }, r := .ev d a k } := by
  have hg : t.getNext W = { t := { t with pos := t.pos + 1, count := t.count + 1 }, r := .ev d a k } := by
    simp [Track.getNext, hmax, hW]
  have hc : ((t.cur * q : Nat) : Int) = (t.cur : Int) * (q : Int) := by push_cast; rfl
  have : ¬ (t.nxt + (d : Int) ≤ (t.cur : Int) * (q : Int)) := by rw [← hc]; omega
  simp only [Track.pullLoop, hdue, if_true, hg]
  simp [this]

/-- The invariant carried by a playing track `j` ticks after a reference state in which it was at
    local tick `c`, about to play event `p0`, with next-event time `N` (units); its stream `sid`
    yields durations `d`.  Ideal time of event `k ≥ p0`: `N + (S d k - S d p0)`.  `past` remembers that every
    event already behind the cursor was performed on the first tick at or after its ideal time; with
    `FirstTick.unique` it gives the converse half of the closed form (`C01.fired_iff_of_inv`): an event whose
    first tick is the present one cannot be behind the cursor already. -/
structure OnsetInv (q sid c p0 : Nat) (N : Int) (d : Nat → Nat) (j : Nat) (t : Track) : Prop where
  cur : t.cur = c + j
  pos : p0 ≤ t.pos
  nxt : t.nxt = N + ((S d t.pos : Int) - S d p0)
  guard : tm q t.cur - q < t.nxt
  sid : t.sid = sid
  maxc : t.maxCount = 0
  past : ∀ k, p0 ≤ k → k < t.pos → ∃ j', j' < j ∧ FirstTick q (N + ((S d k : Int) - S d p0)) (c + j')

theorem onset_step {W : World} {q sid c p0 : Nat} {N : Int} {d : Nat → Nat} {j : Nat} {t : Track}
    (hd : ∀ i, q ≤ d i) (hW : HasDurs W sid d) (h : OnsetInv q sid c p0 N d j t) :
    OnsetInv q sid c p0 N d (j + 1) (clockTick W q t) ∧
    fired W q t = (if t.nxt ≤ tm q t.cur then some t.pos else none) := by
  obtain ⟨hcur, hpos, hnxt, hguard, hsid, hmax, hpast⟩ := h
  have hpast' : ∀ k, p0 ≤ k → k < t.pos → ∃ j', j' < j + 1 ∧ FirstTick q (N + ((S d k : Int) - S d p0)) (c + j') :=
    fun k h0 h1 => let ⟨j', hj', hf⟩ := hpast k h0 h1; ⟨j', Nat.lt_succ_of_lt hj', hf⟩
  have hstep : (((t.cur + 1) * q : Nat) : Int) = ((t.cur * q : Nat) : Int) + q := tm_succ q t.cur
  have hg : ((t.cur * q : Nat) : Int) - q < t.nxt := hguard
  by_cases hdue : t.nxt ≤ (t.cur * q : Nat)
  · -- the event at `t.pos` is due: it is pulled, and it is the only one
    obtain ⟨a, k, hev⟩ := hW t.pos
    rw [← hsid] at hev
    have hnext : ((t.cur * q : Nat) : Int) < t.nxt + d t.pos :=
      Int.lt_of_lt_of_le (Int.lt_add_of_sub_right_lt hg) (Int.add_le_add_left (Int.ofNat_le.mpr (hd t.pos)) _)
    have hp : Track.pullLoop W q (t.fuel q) t .stop =
        { t := { t with pos := t.pos + 1, count := t.count + 1, nxt := t.nxt + d t.pos }, r := .ev (d t.pos) a k } :=
      pullLoop_once W q t .stop (((t.cur * q : Nat) - t.nxt).toNat) (d t.pos) a k hev hmax hdue hnext
    constructor
    · rw [clockTick, if_pos hdue, hp]
      refine ⟨congrArg (· + 1) hcur, Nat.le_succ_of_le hpos, ?_, ?_, hsid, hmax, ?_⟩
      · show t.nxt + d t.pos = N + ((S d (t.pos + 1) : Int) - S d p0)
        rw [hnxt, S_succ, Int.natCast_add]; omega
      · show (((t.cur + 1) * q : Nat) : Int) - q < t.nxt + d t.pos
        rw [hstep, Int.add_sub_cancel]; exact hnext
      · intro k' hk0 hk'
        rcases Nat.lt_succ_iff_lt_or_eq.mp hk' with h1 | rfl
        · exact hpast' k' hk0 h1
        · exact ⟨j, Nat.lt_succ_self j, hnxt ▸ hcur ▸ ⟨hdue, hguard⟩⟩
    · rw [fired, if_pos hdue, hp, if_pos (show t.nxt ≤ tm q t.cur from hdue)]
      rfl
  · constructor
    · rw [clockTick, if_neg hdue]
      refine ⟨congrArg (· + 1) hcur, hpos, hnxt, ?_, hsid, hmax, hpast'⟩
      show (((t.cur + 1) * q : Nat) : Int) - q < t.nxt
      rw [hstep, Int.add_sub_cancel]; exact Int.not_le.mp hdue
    · rw [fired, if_neg hdue, if_neg (show ¬ t.nxt ≤ tm q t.cur from hdue)]

theorem onset_run {W : World} {q sid c p0 : Nat} {N : Int} {d : Nat → Nat} {t0 : Track}
    (hd : ∀ i, q ≤ d i) (hW : HasDurs W sid d) (h0 : OnsetInv q sid c p0 N d 0 t0) (j : Nat) :
    OnsetInv q sid c p0 N d j (clockRun W q t0 j) := by
  induction j with
  | zero => exact h0
  | succ n ih => exact (onset_step hd hW ih).1

theorem onsetInv_init (q : Nat) (d : Nat → Nat) (t : Track) (hmax : t.maxCount = 0)
    (hguard : tm q t.cur - q < t.nxt) : OnsetInv q t.sid t.cur t.pos t.nxt d 0 t :=
  ⟨rfl, Nat.le_refl _, by omega, hguard, rfl, hmax, fun k h1 h2 => by omega⟩

end IsobarV.Sched
