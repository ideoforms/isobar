/-
C01, the float side of the event times: `Track._advance_next_event_time` (fix cbcd7cb).

    duration = duration - self.next_event_time_error
    next_event_time = self.next_event_time + duration
    self.next_event_time_error = (next_event_time - self.next_event_time) - duration
    self.next_event_time = next_event_time

Compensated (Kahan) summation, modelled over ℚ with an abstract rounding function `fl` after every float
operation.  Assumed of `fl`, as hypotheses of the theorems (never as axioms):

* the standard model `|fl x - x| ≤ ε |x|`;
* along the run, the two subtractions that recover the rounding error of the addition are exact
  (`Exact`): `fl (t - s) = t - s` and `fl ((t - s) - y) = (t - s) - y`.  For IEEE-754 binary arithmetic this
  is the Fast2Sum theorem (Dekker 1971) whenever `|s| ≥ |y|` — the running time against one duration.  It
  is NOT proved here; the harness checks it, in exact rational arithmetic, on every addition of its
  long runs (`c01.float_sum_cases`).

Theorem (`kahan_error`): after ANY number `k` of events the accumulated time differs from the exact sum of
the durations by at most `ε M + ε (Σ|dᵢ| + k ε M)` where `M` bounds the running time — one rounding of the
total, plus the roundings of the (tiny) corrected durations; nothing grows with `k` beyond second order.
Plain `+=` admits `k ε M / 2`.
-/
import Mathlib.Tactic.Ring
import Mathlib.Algebra.Order.AbsoluteValue.Basic
import Mathlib.Algebra.Order.Field.Rat

namespace IsobarV.FloatSum

structure KS where
  s : ℚ      -- next_event_time
  c : ℚ      -- next_event_time_error
  deriving Repr

/-- The corrected duration `y`, the new time `t`. -/
def corrected (fl : ℚ → ℚ) (st : KS) (d : ℚ) : ℚ := fl (d - st.c)
def newTime (fl : ℚ → ℚ) (st : KS) (d : ℚ) : ℚ := fl (st.s + corrected fl st d)

/-- `Track._advance_next_event_time`. -/
def kstep (fl : ℚ → ℚ) (st : KS) (d : ℚ) : KS :=
  { s := newTime fl st d, c := fl (fl (newTime fl st d - st.s) - corrected fl st d) }

def krun (fl : ℚ → ℚ) : KS → List ℚ → KS
  | st, [] => st
  | st, d :: ds => krun fl (kstep fl st d) ds

/-- The error-recovering subtractions are exact along the run (Fast2Sum). -/
def Exact (fl : ℚ → ℚ) : KS → List ℚ → Prop
  | _, [] => True
  | st, d :: ds =>
    fl (newTime fl st d - st.s) = newTime fl st d - st.s ∧
    fl ((newTime fl st d - st.s) - corrected fl st d) = (newTime fl st d - st.s) - corrected fl st d ∧
    Exact fl (kstep fl st d) ds

/-- The running time stays below `M` in magnitude. -/
def Mag (fl : ℚ → ℚ) (M : ℚ) : KS → List ℚ → Prop
  | _, [] => True
  | st, d :: ds => |st.s + corrected fl st d| ≤ M ∧ Mag fl M (kstep fl st d) ds

/-- One step: `(s, c)` represents `s - c`.  With the two subtractions exact the new correction is the rounding
    error of the addition, so the step adds `d` to the represented value up to the rounding of `d - c` alone. -/
theorem kstep_spec (fl : ℚ → ℚ) (ε M : ℚ) (hε : 0 ≤ ε) (hfl : ∀ x, |fl x - x| ≤ ε * |x|) (st : KS) (d : ℚ)
    (hc : |st.c| ≤ ε * M)
    (h1 : fl (newTime fl st d - st.s) = newTime fl st d - st.s)
    (h2 : fl ((newTime fl st d - st.s) - corrected fl st d) = (newTime fl st d - st.s) - corrected fl st d)
    (hM : |st.s + corrected fl st d| ≤ M) :
    |((kstep fl st d).s - (kstep fl st d).c) - ((st.s - st.c) + d)| ≤ ε * (|d| + ε * M) ∧
    |(kstep fl st d).c| ≤ ε * M := by
  have hc' : (kstep fl st d).c = fl (st.s + corrected fl st d) - (st.s + corrected fl st d) := by
    rw [kstep, h1, h2, sub_sub, newTime]
  have hv : (kstep fl st d).s - (kstep fl st d).c - (st.s - st.c + d) = fl (d - st.c) - (d - st.c) := by
    rw [hc', kstep, newTime, corrected]; ring
  rw [hv, hc']
  exact ⟨(hfl _).trans (mul_le_mul_of_nonneg_left ((abs_sub _ _).trans (add_le_add_right hc _)) hε),
    (hfl _).trans (mul_le_mul_of_nonneg_left hM hε)⟩

/-- The same over a whole run, from ANY state with a small pending correction: `Exact` can fail in the first
    events of a track, while the time is still smaller than a duration, and the bound then applies from the event
    after the last inexact recovery. -/
theorem krun_spec (fl : ℚ → ℚ) (ε M : ℚ) (hε : 0 ≤ ε) (hfl : ∀ x, |fl x - x| ≤ ε * |x|) :
    ∀ (ds : List ℚ) (st : KS), |st.c| ≤ ε * M → Exact fl st ds → Mag fl M st ds →
      |((krun fl st ds).s - (krun fl st ds).c) - ((st.s - st.c) + ds.sum)| ≤
        ε * ((ds.map (fun d => |d|)).sum + ds.length * (ε * M)) ∧
      |(krun fl st ds).c| ≤ ε * M := by
  intro ds
  induction ds with
  | nil =>
    intro st hc _ _
    simp [krun, hc]
  | cons d ds ih =>
    intro st hc ⟨e1, e2, e3⟩ ⟨g1, g2⟩
    obtain ⟨k1, k2⟩ := kstep_spec fl ε M hε hfl st d hc e1 e2 g1
    obtain ⟨i1, i2⟩ := ih (kstep fl st d) k2 e3 g2
    refine ⟨?_, i2⟩
    rw [krun, List.sum_cons, List.map_cons, List.sum_cons, List.length_cons, Nat.cast_succ, ← add_assoc]
    -- through the value represented after the first step
    refine (abs_sub_le _ ((kstep fl st d).s - (kstep fl st d).c + ds.sum) _).trans ?_
    rw [add_sub_add_right_eq_sub]
    exact (add_le_add i1 k1).trans_eq (by ring)

/-- **Event times do not drift**: started at `s₀` with no pending correction, after the durations `ds`
    (any number of them) the accumulated time is within `ε M + ε (Σ|dᵢ| + k ε M)` of the exact time. -/
theorem kahan_error (fl : ℚ → ℚ) (ε M : ℚ) (hε : 0 ≤ ε) (hM0 : 0 ≤ M) (hfl : ∀ x, |fl x - x| ≤ ε * |x|)
    (s0 : ℚ) (ds : List ℚ) (hE : Exact fl ⟨s0, 0⟩ ds) (hG : Mag fl M ⟨s0, 0⟩ ds) :
    |(krun fl ⟨s0, 0⟩ ds).s - (s0 + ds.sum)| ≤ ε * M + ε * ((ds.map (fun d => |d|)).sum + ds.length * (ε * M)) := by
  obtain ⟨h1, h2⟩ := krun_spec fl ε M hε hfl ds ⟨s0, 0⟩ ((abs_zero (α := ℚ)).trans_le (mul_nonneg hε hM0)) hE hG
  -- the time is the represented value `s - c` plus the pending correction `c`
  have h := (abs_add_le _ _).trans (add_le_add h1 h2)
  dsimp only at h
  rw [sub_zero, sub_right_comm, sub_add_cancel] at h
  rwa [add_comm (ε * M)]

/-- In exact arithmetic the compensated sum IS the sum (the repair changes nothing but the rounding):
    this is how the integer-time scheduler model (`nxt := nxt + d`) reads the same code. -/
theorem kahan_exact_arithmetic (s0 : ℚ) (ds : List ℚ) : krun id ⟨s0, 0⟩ ds = ⟨s0 + ds.sum, 0⟩ := by
  induction ds generalizing s0 with
  | nil => simp [krun]
  | cons d ds ih =>
    have : kstep id ⟨s0, 0⟩ d = ⟨s0 + d, 0⟩ := by
      simp [kstep, newTime, corrected]
    rw [krun, this, ih, List.sum_cons, add_assoc]

/-- Non-vacuity: the hypotheses hold for exact arithmetic on a concrete run. -/
example : Exact id ⟨0, 0⟩ [1 / 10, 1 / 3, 7] ∧ Mag id 8 ⟨0, 0⟩ [1 / 10, 1 / 3, 7] := by
  simp only [Exact, Mag]
  decide +kernel

end IsobarV.FloatSum
