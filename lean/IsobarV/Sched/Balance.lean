/-
The counting invariant behind C02, for one fixed (note, channel) pair:
    note-ons sent  +  note-offs pending before  =  note-offs sent  +  note-offs pending after
(`Bal`), and what the writes to the track list do to the pending count and to freshness.
-/
import IsobarV.Sched.Fields

namespace IsobarV.Sched

abbrev NC := Int × Int

def Call.isOn (nc : NC) : Call → Bool
  | .noteOn n _ c => decide (n = nc.1 ∧ c = nc.2)
  | _ => false

def Call.isOff (nc : NC) : Call → Bool
  | .noteOff n c => decide (n = nc.1 ∧ c = nc.2)
  | _ => false

def onCount (nc : NC) (cs : List Call) : Nat := cs.countP (Call.isOn nc)
def offCount (nc : NC) (cs : List Call) : Nat := cs.countP (Call.isOff nc)

def NoteOff.is (nc : NC) (o : NoteOff) : Bool := decide (o.note = nc.1 ∧ o.chan = nc.2)
def pendOffs (nc : NC) (os : List NoteOff) : Nat := os.countP (NoteOff.is nc)

def pendTracks (nc : NC) : List Track → Nat
  | [] => 0
  | t :: ts => pendOffs nc t.offs + pendTracks nc ts

/-- Number of pending note-offs for `nc` over all tracks in the timeline. -/
def pend (nc : NC) (tl : TL) : Nat := pendTracks nc tl.tracks

def Bal (nc : NC) (tl : TL) (calls : List Call) (tl' : TL) : Prop :=
  onCount nc calls + pend nc tl = offCount nc calls + pend nc tl'

variable {nc : NC}

@[simp] theorem onCount_nil : onCount nc [] = 0 := rfl
@[simp] theorem offCount_nil : offCount nc [] = 0 := rfl
@[simp] theorem onCount_append (a b : List Call) : onCount nc (a ++ b) = onCount nc a + onCount nc b :=
  List.countP_append
@[simp] theorem offCount_append (a b : List Call) : offCount nc (a ++ b) = offCount nc a + offCount nc b :=
  List.countP_append
@[simp] theorem pendOffs_nil : pendOffs nc [] = 0 := rfl
@[simp] theorem pendOffs_append (a b : List NoteOff) : pendOffs nc (a ++ b) = pendOffs nc a + pendOffs nc b :=
  List.countP_append
@[simp] theorem pendTracks_nil : pendTracks nc [] = 0 := rfl
@[simp] theorem pendTracks_cons (t : Track) (ts : List Track) :
    pendTracks nc (t :: ts) = pendOffs nc t.offs + pendTracks nc ts := rfl
@[simp] theorem pendTracks_append (a b : List Track) :
    pendTracks nc (a ++ b) = pendTracks nc a + pendTracks nc b := by
  induction a with
  | nil => exact (Nat.zero_add _).symm
  | cons t ts ih => rw [List.cons_append, pendTracks_cons, pendTracks_cons, ih, Nat.add_assoc]

@[simp] theorem onCount_offCalls (os : List NoteOff) : onCount nc (offCalls os) = 0 := by
  rw [onCount, offCalls, List.countP_map]
  exact List.countP_eq_zero.mpr fun _ _ => Bool.false_ne_true

@[simp] theorem offCount_offCalls (os : List NoteOff) : offCount nc (offCalls os) = pendOffs nc os := by
  rw [offCount, offCalls, List.countP_map]
  rfl

theorem pend_setTrack {tl : TL} {t u : Track} (h : tl.find t.id = some u) :
    pend nc (tl.setTrack t) + pendOffs nc u.offs = pend nc tl + pendOffs nc t.offs := by
  obtain ⟨a, b, hts, ha, hu⟩ := findTrack_split h
  simp only [pend, TL.setTrack, hts, setFirst_at ha hu, pendTracks_append, pendTracks_cons]
  omega

theorem pend_removeTrack {tl : TL} {tid : Nat} {u : Track} (h : tl.find tid = some u) :
    pend nc (tl.removeTrack tid) + pendOffs nc u.offs = pend nc tl := by
  obtain ⟨a, b, hts, ha, hu⟩ := findTrack_split h
  simp only [pend, TL.removeTrack, hts, eraseFirst_at ha hu, pendTracks_append, pendTracks_cons]
  omega

theorem Bal.of_pend_eq {tl tl' : TL} (h : pend nc tl' = pend nc tl) : Bal nc tl [] tl' :=
  congrArg (0 + ·) h.symm

theorem Bal.trans {a b c : TL} {c1 c2 : List Call} (h1 : Bal nc a c1 b) (h2 : Bal nc b c2 c) :
    Bal nc a (c1 ++ c2) c := by
  simp only [Bal, onCount_append, offCount_append] at *; omega

theorem Bal.then {a b c : TL} {cs : List Call} (h1 : Bal nc a cs b) (h2 : pend nc c = pend nc b) :
    Bal nc a cs c := by
  unfold Bal; rw [h2]; exact h1

theorem Bal.flush (tl : TL) (tid : Nat) : Bal nc tl (flushOf tl tid) (tl.removeTrack tid) := by
  unfold flushOf
  cases hf : tl.find tid with
  | none => exact Bal.of_pend_eq (by rw [pend, TL.removeTrack, eraseFirst_none hf]; rfl)
  | some t =>
    have := pend_removeTrack (nc := nc) hf
    simp only [Bal, Track.flushCalls, onCount_offCalls, offCount_offCalls]; omega

/-! ### A track is "fresh" unless it is finished and due for removal

`dropFinished` takes a finished remove-when-done track out of the timeline WITHOUT sending its note-offs, so the
balance survives it only if such a track has none pending.  The invariant is therefore that no track of the
timeline is finished and removable (`AllFresh`: `dropFinished` has already removed every such track), and the one
place where it is broken — between a track's tick and the `dropFinished` that follows — is described by
`PostTick` in `BalanceOps.lean`: the ticked track may have become finished, but then with nothing pending.
(`C02.Fresh0`, "freshly constructed", is another notion: no tracks at all.) -/

def Fresh (t : Track) : Prop := ¬ (t.finished = true ∧ t.rwd = true)
def AllFresh (ts : List Track) : Prop := ∀ t ∈ ts, Fresh t

theorem AllFresh.setFirst {t : Track} {ts : List Track} (h : AllFresh ts) (ht : Fresh t) :
    AllFresh (setFirst t ts) :=
  fun x hx => (mem_setFirst hx).elim (fun e => e ▸ ht) (h x)

theorem AllFresh.eraseFirst {tid : Nat} {ts : List Track} (h : AllFresh ts) : AllFresh (eraseFirst tid ts) :=
  fun x hx => h x (mem_eraseFirst hx)

theorem AllFresh.find {tl : TL} {tid : Nat} {t : Track} (h : AllFresh tl.tracks) (hf : tl.find tid = some t) :
    Fresh t := h t (findTrack_mem hf)

theorem SameNotes.fresh {t t' : Track} (h : SameNotes t t') (ht : Fresh t) : Fresh t' := by
  rw [Fresh, h.2.2.1, h.2.2.2]; exact ht

theorem pend_modify {tl : TL} {tid : Nat} {t t' : Track} (hf : tl.find tid = some t) (hs : SameNotes t t')
    (hA : AllFresh tl.tracks) :
    pend nc (tl.setTrack t') = pend nc tl ∧ AllFresh (tl.setTrack t').tracks ∧ (tl.setTrack t').find tid = some t' := by
  have hid : t'.id = tid := hs.1.trans (findTrack_id hf)
  have hf' : tl.find t'.id = some t := hid ▸ hf
  refine ⟨?_, hA.setFirst (hs.fresh (hA.find hf)), hid ▸ find_setTrack hf'⟩
  have := pend_setTrack (nc := nc) hf'
  rw [hs.2.1] at this; omega

theorem pend_insert {ts a b : List Track} {x : Track} (hts : a ++ b = ts) (hx : x.offs = []) (hfin : x.finished = false)
    (hA : AllFresh ts) : pendTracks nc (a ++ x :: b) = pendTracks nc ts ∧ AllFresh (a ++ x :: b) := by
  subst hts
  constructor
  · simp only [pendTracks_append, pendTracks_cons, hx, pendOffs_nil, Nat.zero_add]
  · intro y hy
    rw [List.mem_append, List.mem_cons] at hy
    rcases hy with hy | rfl | hy
    · exact hA y (List.mem_append_left _ hy)
    · exact fun h => Bool.false_ne_true (hfin ▸ h.1)
    · exact hA y (List.mem_append_right _ hy)

end IsobarV.Sched
