/-
Lemmas for property C03: Python-dict algebra on association lists, what each stage of `Event.__init__` does to a
lookup, how an event is read back from the specification's lookups, and how `Pattern.value` moves the cursor.

`Event/Spec.lean` restates the dictionary updates of `Event.__init__` (synonyms, defaults, the pitch blocks) as
one lookup function; its `specPayload` is the model's `classifyPayload` read against that function, so
`classify_eq` is an unfolding. The statement of type precedence that does not repeat the model's chain of tests
is `C03.type_precedence`, through `specPayload_ok`.
-/
import IsobarV.Event.Spec

namespace IsobarV.Event
open IsobarV.Tonal (Key Scale)

theorem ok_bind {ε α β : Type} (a : α) (f : α → Except ε β) : (Except.ok a >>= f) = f a := rfl

theorem error_bind {ε α β : Type} (e : ε) (f : α → Except ε β) : ((Except.error e : Except ε α) >>= f) = Except.error e := rfl

theorem bind_congr_ok {ε α β : Type} {x : Except ε α} {f g : α → Except ε β} (h : ∀ a, x = .ok a → f a = g a) :
    (x >>= f) = (x >>= g) := by
  cases x with
  | error e => rfl
  | ok a => exact h a rfl

theorem bind_eq_ok {ε α β : Type} {x : Except ε α} {f : α → Except ε β} {b : β} :
    (x >>= f) = .ok b ↔ ∃ a, x = .ok a ∧ f a = .ok b := by
  cases x <;> simp [ok_bind, error_bind]

@[simp] theorem firstSome_some {α : Type} (a : α) (rest : List (Option α)) : firstSome (some a :: rest) = some a := rfl

@[simp] theorem firstSome_none {α : Type} (rest : List (Option α)) : firstSome (none :: rest) = firstSome rest := rfl

theorem firstSome_two {α : Type} (a b : Option α) : firstSome [a, b] = match a with | some x => some x | none => b := by
  cases a <;> cases b <;> rfl

theorem firstSome_cons {α : Type} (a : Option α) (rest : List (Option α)) :
    firstSome (a :: rest) = a.or (firstSome rest) := by
  cases a <;> rfl

namespace Dict

@[simp] theorem get_nil (k : String) : Dict.get [] k = none := rfl

theorem get_cons (kv : String × Val) (rest : Dict) (k : String) :
    Dict.get (kv :: rest) k = if kv.1 = k then some kv.2 else Dict.get rest k := rfl

theorem get_set (d : Dict) (k : String) (v : Val) (k' : String) :
    (d.set k v).get k' = if k' = k then some v else d.get k' := by
  induction d with
  | nil => simp only [Dict.set, get_cons, eq_comm]
  | cons kv rest ih =>
    simp only [Dict.set]
    grind [get_cons]

theorem get_set_self (d : Dict) (k : String) (v : Val) : (d.set k v).get k = some v := by
  rw [get_set, if_pos rfl]

theorem get_append (d e : Dict) (k : String) : (d ++ e).get k = (d.get k).or (e.get k) := by
  induction d with
  | nil => rfl
  | cons kv rest ih =>
    rw [List.cons_append, get_cons, get_cons, ih]
    split <;> rfl

theorem get_setDefault (d : Dict) (k : String) (v : Val) (k' : String) :
    (d.setDefault k v).get k' = (d.get k').or (if k = k' then some v else none) := by
  unfold Dict.setDefault Dict.contains
  split
  · next h =>
    split
    · next hk => rw [← hk, Option.or_of_isSome h]
    · exact Option.or_none.symm
  · exact get_append d _ k'

theorem get_map_values (l : Dict) (f : String → Val → Val) (k : String) :
    Dict.get (l.map fun kv => (kv.1, f kv.1 kv.2)) k = (Dict.get l k).map (f k) := by
  induction l with
  | nil => rfl
  | cons kv rest ih =>
    rw [List.map_cons, get_cons, get_cons, ih]
    split
    · next h => rw [← h]; rfl
    · rfl

theorem get_eq_none_of_not_mem (l : Dict) (k : String) (h : k ∉ l.map (·.1)) : l.get k = none := by
  induction l with
  | nil => rfl
  | cons kv rest ih =>
    rw [List.map_cons, List.mem_cons, not_or] at h
    rw [get_cons, if_neg (Ne.symm h.1), ih h.2]

/-- a dictionary with the keys of `lib`, in the same order, is `lib` with its own values put in. -/
theorem map_getD_of_same_keys (lib l : Dict) (hk : lib.map (·.1) = l.map (·.1)) (hnd : (lib.map (·.1)).Nodup) :
    lib.map (fun kv => (kv.1, (l.get kv.1).getD kv.2)) = l := by
  induction lib generalizing l with
  | nil => exact (List.map_eq_nil_iff.1 hk.symm).symm
  | cons kv rest ih =>
    obtain ⟨kv', rest', rfl⟩ := List.exists_cons_of_ne_nil (l := l) (by rintro rfl; cases hk)
    rw [List.map_cons, List.map_cons, List.cons.injEq] at hk
    rw [List.map_cons, List.nodup_cons] at hnd
    refine List.cons_eq_cons.2 ⟨?_, (List.map_congr_left fun x hx => ?_).trans (ih rest' hk.2 hnd.2)⟩
    · simp only [get_cons, hk.1, if_true, Option.getD_some]
    · have : kv'.1 ≠ x.1 := fun e => hnd.1 (hk.1 ▸ e ▸ List.mem_map_of_mem hx)
      simp only [get_cons, this, if_false]

end Dict

theorem applyDefaults_get (df d : Dict) (k : String) : (applyDefaults d df).get k = (d.get k).or (df.get k) := by
  unfold applyDefaults
  induction df generalizing d with
  | nil => exact Option.or_none.symm
  | cons kv rest ih =>
    rw [List.foldl_cons, ih, Dict.get_setDefault, Option.or_assoc, Dict.get_cons]
    congr 1
    split <;> rfl

theorem foldLegacy_get (d : Dict) (k : String) : (foldLegacy d).get k = explicitField d k := by
  unfold foldLegacy explicitField
  by_cases ha : k = "amplitude"
  · subst ha
    cases hdur : d.get "dur" <;> cases hamp : d.get "amp" <;> cases hvel : d.get "velocity" <;>
      simp [Dict.get_set, hamp, hvel, firstSome_cons, firstSome]
  · by_cases hd : k = "duration"
    · subst hd
      cases hdur : d.get "dur" <;> cases hamp : d.get "amp" <;> cases hvel : d.get "velocity" <;>
        simp [Dict.get_set, hamp, hvel, firstSome_cons, firstSome]
    · cases hdur : d.get "dur" <;> cases hamp : d.get "amp" <;> cases hvel : d.get "velocity" <;>
        simp [Dict.get_set, hamp, hvel, ha, hd]

theorem defaults_stage_get (d ov : Dict) (k : String) :
    (applyDefaults (foldLegacy d) (effectiveDefaults ov)).get k = specField d ov k := by
  rw [applyDefaults_get, foldLegacy_get, effectiveDefaults, Dict.get_map_values libraryDefaults fun k v => (ov.get k).getD v]
  unfold specField timelineDefault Dict.contains
  cases explicitField d k <;> cases libraryDefaults.get k <;> cases ov.get k <;> rfl

/-- the names of `EventDefaults.default_values`, in the order of the generated table. -/
theorem libraryDefaults_keys :
    libraryDefaults.map (·.1) = ["active", "channel", "duration", "gate", "amplitude", "octave", "transpose", "key",
      "quantize", "delay", "pitchbend"] := rfl

/-- a key that is not the name of a library default has no synonym and no default: only the event can give it. -/
theorem specField_plain (d ov : Dict) (k : String) (h : k ∉ libraryDefaults.map (·.1)) : specField d ov k = d.get k := by
  have hl := Dict.get_eq_none_of_not_mem _ k h
  rw [libraryDefaults_keys] at h
  have ha : k ≠ "amplitude" := by rintro rfl; simp at h
  have hd : k ≠ "duration" := by rintro rfl; simp at h
  simp only [specField, timelineDefault, explicitField, Dict.contains, hl, ha, hd, if_false, firstSome_cons,
    Option.isSome_none, Bool.false_eq_true, firstSome, Option.or_none]

theorem need_eq (d : Dict) (k : String) : d.need k = needSome (d.get k) := by
  unfold Dict.need needSome
  cases d.get k <;> rfl

/-- `specPayload` is `classifyPayload` with `d.contains k` written `(f k).isSome` and `d.need k` written
    `needSome (f k)`: the two sides unfold to the same term. -/
theorem classify_eq (d : Dict) : classify d = specEvent d.get := by
  have : d.need = fun k => needSome (d.get k) := funext (need_eq d)
  unfold classify classifyPayload
  rw [this]
  rfl

theorem keyLookup_ne_none {k : KeyRef} {ds : Deg} {v : Val} (h : keyLookup k ds = .ok v) : v ≠ Val.none := by
  rintro rfl
  unfold keyLookup at h
  split at h
  · next k d => cases hk : keyGet k d <;> rw [hk] at h <;> cases h
  · next k ds => cases hk : ds.mapM (keyGet k) <;> rw [hk] at h <;> cases h
  · cases h
  · cases h

theorem set_rest_final (d : Dict) :
    (((d.set "note" (.int 0)).set "amplitude" (.int 0)).set "gate" (.int 0)).get = finalOf d.get .rest := by
  funext k
  simp only [Dict.get_set, finalOf]
  grind

theorem set_note_final (d : Dict) (v : Val) : (d.set "note" v).get = finalOf d.get (.notes v) := by
  funext k
  simp only [Dict.get_set, finalOf]

theorem finalOf_set_note (d : Dict) (x : Val) (p : Pitch) (hp : p ≠ .absent) :
    finalOf (d.set "note" x).get p = finalOf d.get p := by
  funext k
  cases p with
  | absent => exact absurd rfl hp
  | rest =>
    simp only [finalOf, Dict.get_set]
    split
    · rfl
    · next h => rw [if_neg fun e => h (.inl e)]
  | notes v =>
    simp only [finalOf, Dict.get_set]
    split <;> rfl

theorem noteStage_classify (d : Dict) (n : Val) (hn : d.get "note" = some n) :
    (noteStage d >>= classify) =
      (if n = .none then specEvent (finalOf d.get .rest)
      else do
        let octave ← needSome (d.get "octave")
        let transpose ← needSome (d.get "transpose")
        let v ← shiftNote n octave transpose
        specEvent (finalOf d.get (.notes v))) := by
  unfold noteStage
  rw [hn]
  simp only
  split
  · rw [ok_bind, classify_eq, set_rest_final]
  · simp only [need_eq, bind_assoc, ok_bind, classify_eq, set_note_final]

/-- the degree block, the note block and the classification together are the pitch formula and one reading of
    the fields: the blocks only ever write `note` (and, for a rest, `amplitude` and `gate`). -/
theorem stages_eq (d : Dict) :
    (degreeStage d >>= fun d3 => noteStage d3 >>= fun d4 => classify d4)
      = (pitchOf d.get >>= fun p => specEvent (finalOf d.get p)) := by
  unfold degreeStage pitchOf
  cases hdeg : d.get "degree" with
  | none =>
    cases hn : d.get "note" with
    | none => simp only [ok_bind, noteStage, hn, classify_eq]; rfl
    | some n =>
      simp only [ok_bind]
      rw [noteStage_classify d n hn]
      split <;> simp only [bind_assoc, ok_bind]
  | some deg =>
    simp only
    split
    · rw [ok_bind, noteStage_classify _ _ (Dict.get_set_self ..), if_pos rfl, ok_bind,
        finalOf_set_note _ _ _ (by simp)]
    · simp only [need_eq, bind_assoc, ok_bind]
      refine bind_congr_ok fun ds _ => bind_congr_ok fun kv _ => bind_congr_ok fun key _ => bind_congr_ok fun note hkl => ?_
      rw [noteStage_classify _ _ (Dict.get_set_self ..), if_neg (keyLookup_ne_none hkl)]
      simp only [Dict.get_set, String.reduceEq, if_false, finalOf_set_note _ _ _ (Pitch.noConfusion : Pitch.notes _ ≠ .absent)]

theorem needSome_eq_ok {o : Option Val} {v : Val} : needSome o = .ok v ↔ o = some v := by
  cases o <;> simp [needSome]

theorem specEvent_ok (f : String → Option Val) (e : Event) (h : specEvent f = .ok e) :
    specPayload f = .ok e.payload ∧ f "duration" = some e.duration ∧ f "active" = some e.active := by
  unfold specEvent at h
  simp only [bind_eq_ok, needSome_eq_ok, Except.ok.injEq] at h
  obtain ⟨p, hp, du, hd, ac, ha, rfl⟩ := h
  exact ⟨hp, hd, ha⟩

/-- one step of the first-present chain of `specPayload`, in step with the search through `typeKeys`: in the branch
    taken the payload's own key is `k`; otherwise both move on. -/
theorem firstPresent_step {f : String → Option Val} {k : String} {ks : List String} {a b : Except Err Payload}
    {p : Payload} {Q : Prop} (h : (if (f k).isSome then a else b) = .ok p)
    (pos : a = .ok p → p.typeKey = k ∧ Q)
    (neg : b = .ok p → (ks.find? fun k => (f k).isSome) = some p.typeKey ∧ Q) :
    ((k :: ks).find? fun k => (f k).isSome) = some p.typeKey ∧ Q := by
  rw [List.find?_cons]
  cases hk : (f k).isSome with
  | true => rw [hk, if_pos rfl] at h; exact ⟨congrArg some (pos h).1.symm, (pos h).2⟩
  | false => rw [hk] at h; exact neg h

/-- what a payload says about the lookups that produced it: its type-selecting key is the first present one, and
    its attributes are the fields of its type. -/
theorem specPayload_ok (f : String → Option Val) (p : Payload) (h : specPayload f = .ok p) :
    (typeKeys.find? fun k => (f k).isSome) = some p.typeKey ∧
    match (generalizing := false) p with
    | .action fn args => f "action" = some fn ∧ ((f "args" = none ∧ args = []) ∨ f "args" = some (.dict args))
    | .patch .. => True
    | .control c v ch => f "control" = some c ∧ f "value" = some v ∧ f "channel" = some ch
    | .program pr ch => f "program_change" = some pr ∧ f "channel" = some ch
    | .osc a ps => f "osc_address" = some a ∧
        ((f "osc_params" = none ∧ ps = .dict []) ∨ ∃ x, f "osc_params" = some x ∧ oscParams x = .ok ps)
    | .synth n ps => f "synth" = some n ∧ ((f "params" = none ∧ ps = .dict []) ∨ f "params" = some ps)
    | .note n a g c pb => f "note" = some n ∧ f "amplitude" = some a ∧ f "gate" = some g ∧ f "channel" = some c ∧
        f "pitchbend" = some pb := by
  unfold specPayload at h
  unfold typeKeys
  refine firstPresent_step h (fun h => ?_) fun h => ?_
  · obtain ⟨fn, hfn, h⟩ := bind_eq_ok.1 h
    rw [needSome_eq_ok] at hfn
    split at h
    all_goals cases h
    · exact ⟨rfl, hfn, .inl ⟨‹_›, rfl⟩⟩
    · exact ⟨rfl, hfn, .inr ‹_›⟩
  refine firstPresent_step h (fun h => ?_) fun h => ?_
  · obtain ⟨x, -, h⟩ := bind_eq_ok.1 h
    cases h
    exact ⟨rfl, trivial⟩
  refine firstPresent_step h (fun h => ?_) fun h => ?_
  · simp only [bind_eq_ok, needSome_eq_ok, Except.ok.injEq] at h
    obtain ⟨c, hc, v, hv, ch, hch, rfl⟩ := h
    exact ⟨rfl, hc, hv, hch⟩
  refine firstPresent_step h (fun h => ?_) fun h => ?_
  · simp only [bind_eq_ok, needSome_eq_ok, Except.ok.injEq] at h
    obtain ⟨pr, hpr, ch, hch, rfl⟩ := h
    exact ⟨rfl, hpr, hch⟩
  refine firstPresent_step h (fun h => ?_) fun h => ?_
  · obtain ⟨a, ha, h⟩ := bind_eq_ok.1 h
    rw [needSome_eq_ok] at ha
    split at h
    · cases h
      exact ⟨rfl, ha, .inl ⟨‹_›, rfl⟩⟩
    · obtain ⟨ps, hps, h⟩ := bind_eq_ok.1 h
      cases h
      exact ⟨rfl, ha, .inr ⟨_, ‹_›, hps⟩⟩
  refine firstPresent_step h (fun h => ?_) fun h => ?_
  · obtain ⟨n, hn, h⟩ := bind_eq_ok.1 h
    rw [needSome_eq_ok] at hn
    split at h
    all_goals cases h
    · exact ⟨rfl, hn, .inl ⟨‹_›, rfl⟩⟩
    · exact ⟨rfl, hn, .inr ‹_›⟩
  refine firstPresent_step h (fun h => ?_) fun h => ?_
  · simp only [bind_eq_ok, needSome_eq_ok, Except.ok.injEq] at h
    obtain ⟨n, hn, a, ha, g, hg, c, hc, pb, hpb, rfl⟩ := h
    exact ⟨rfl, hn, ha, hg, hc, hpb⟩
  · cases h

theorem specPayload_untyped (f : String → Option Val) (h : (typeKeys.find? fun k => (f k).isSome) = none) :
    specPayload f = .error .invalidEventException := by
  simp only [typeKeys, List.find?_eq_none, List.mem_cons, List.not_mem_nil, or_false, forall_eq_or_imp, forall_eq] at h
  simp only [specPayload, h]
  rfl

theorem finalOf_other (f : String → Option Val) (p : Pitch) (k : String) (h : k ∉ ["note", "amplitude", "gate"]) :
    finalOf f p k = f k := by
  simp only [List.mem_cons, List.not_mem_nil, or_false] at h
  cases p <;> simp only [finalOf, h, if_false]
  rw [if_neg fun e => h (.inl e)]

theorem finalOf_sounding (f : String → Option Val) (p : Pitch) (k : String) (hp : p ≠ .rest) (hk : k ≠ "note") :
    finalOf f p k = f k := by
  cases p with
  | absent => rfl
  | rest => exact absurd rfl hp
  | notes v => exact if_neg hk

theorem specField_degree (d ov : Dict) : specField d ov "degree" = d.get "degree" :=
  specField_plain d ov _ (by simp [libraryDefaults_keys])

theorem specField_note (d ov : Dict) : specField d ov "note" = d.get "note" :=
  specField_plain d ov _ (by simp [libraryDefaults_keys])

theorem specFinal_plain (d ov : Dict) (p : Pitch) (k : String) (hk : k ∉ libraryDefaults.map (·.1)) (hn : k ≠ "note") :
    specFinal d ov p k = d.get k := by
  rw [specFinal, finalOf_other, specField_plain d ov k hk]
  rw [libraryDefaults_keys] at hk
  simp only [List.mem_cons, not_or] at hk ⊢
  -- `amplitude` and `gate` are the fifth and the fourth library default
  exact ⟨hn, hk.2.2.2.2.1, hk.2.2.2.1, List.not_mem_nil⟩

theorem pitchOf_absent_iff (f : String → Option Val) (p : Pitch) (h : pitchOf f = .ok p) :
    p = .absent ↔ ((f "note").isSome || (f "degree").isSome) = false := by
  unfold pitchOf at h
  cases hdeg : f "degree" <;> cases hn : f "note" <;> simp only [hdeg, hn] at h
  · cases h
    simp
  -- a `note` or a `degree`: a rest, or the formula's value
  all_goals
    suffices p ≠ .absent by simpa
    rintro rfl
    split at h
    · cases h
    · simp only [bind_eq_ok, Except.ok.injEq, reduceCtorEq, and_false, exists_false] at h

theorem final_isSome (d ov : Dict) (p : Pitch) (hp : specPitch d ov = .ok p) (k : String)
    (hk : k ∉ libraryDefaults.map (·.1)) : (specFinal d ov p k).isSome = hasTypeKey d k := by
  unfold hasTypeKey
  split
  · next h =>
    subst h
    have hp := pitchOf_absent_iff _ p hp
    rw [specField_degree, specField_note] at hp
    cases p with
    | absent =>
      show (specField d ov "note").isSome = ((d.get "note").isSome || (d.get "degree").isSome)
      rw [specField_note, hp.1 rfl]
      exact (Bool.or_eq_false_iff.1 (hp.1 rfl)).1
    | rest => exact (Bool.of_not_eq_false (mt hp.2 Pitch.noConfusion)).symm
    | notes v => exact (Bool.of_not_eq_false (mt hp.2 Pitch.noConfusion)).symm
  · next h => rw [specFinal_plain d ov p k hk h]; rfl

theorem find?_congr {α : Type} {l : List α} {p q : α → Bool} (h : ∀ a ∈ l, p a = q a) : l.find? p = l.find? q := by
  induction l with
  | nil => rfl
  | cons a l ih =>
    rw [List.find?_cons, List.find?_cons, h a List.mem_cons_self, ih fun b hb => h b (List.mem_cons_of_mem a hb)]

theorem final_typeKey {d ov : Dict} {p : Pitch} (hp : specPitch d ov = .ok p) :
    (typeKeys.find? fun k => (specFinal d ov p k).isSome) = typeKeys.find? (hasTypeKey d) := by
  have hk : ∀ k ∈ typeKeys, k ∉ libraryDefaults.map (·.1) := by rw [libraryDefaults_keys]; decide +kernel
  exact find?_congr fun k hkm => final_isSome d ov p hp k (hk k hkm)

theorem pitchOf_degree (f : String → Option Val) {deg kv o t ns v : Val} {ds : Deg} {k : KeyRef}
    (hd : f "degree" = some deg) (hne : deg ≠ .none) (hds : degreeInts deg = .ok ds)
    (hkv : f "key" = some kv) (hk : resolveKey kv = .ok k) (hns : keyLookup k ds = .ok ns)
    (ho : f "octave" = some o) (ht : f "transpose" = some t) (hv : shiftNote ns o t = .ok v) :
    pitchOf f = .ok (.notes v) := by
  simp only [pitchOf, hd, hne, if_false, hds, hkv, hk, hns, ho, ht, hv, needSome, ok_bind]

theorem pitchOf_note (f : String → Option Val) {n o t v : Val}
    (hd : f "degree" = none) (hn : f "note" = some n) (hne : n ≠ .none)
    (ho : f "octave" = some o) (ht : f "transpose" = some t) (hv : shiftNote n o t = .ok v) :
    pitchOf f = .ok (.notes v) := by
  simp only [pitchOf, hd, hn, hne, if_false, ho, ht, hv, needSome, ok_bind]

theorem mapM_pyIntAtom_ints (ds : List Int) : (ds.map Atom.int).mapM pyIntAtom = .ok ds := by
  induction ds with
  | nil => rfl
  | cons x xs ih =>
    simp only [List.map_cons, List.mapM_cons, ih, pyIntAtom]
    rfl

theorem any_intOOM_ints (ds : List Int) : (ds.map Atom.int).any Atom.intOOM = false := by
  induction ds with
  | nil => rfl
  | cons x xs ih => simp [Atom.intOOM, ih]

theorem degreeInts_list (ds : List Int) : degreeInts (.list (ds.map Atom.int)) = .ok (.chord ds) := by
  simp only [degreeInts, any_intOOM_ints, mapM_pyIntAtom_ints, Bool.false_eq_true, if_false]

theorem degreeInts_tup (ds : List Int) : degreeInts (.tup (ds.map Atom.int)) = .ok (.chord ds) := degreeInts_list ds

theorem keyGet_ok (k : Key) (hne : k.scale.semitones ≠ []) (d : Int) : keyGet k d = .ok (k.get d) := by
  rw [keyGet, if_neg (by simpa using hne)]

theorem keyLookup_chord (k : Key) (hne : k.scale.semitones ≠ []) (ds : List Int) :
    keyLookup (.key k) (.chord ds) = .ok (.list ((ds.map k.get).map Atom.int)) := by
  have : ds.mapM (keyGet k) = .ok (ds.map k.get) := by
    induction ds with
    | nil => rfl
    | cons x xs ih => simp only [List.mapM_cons, keyGet_ok k hne, ih, List.map_cons]; rfl
  simp only [keyLookup, this]
  rfl

theorem shiftAmount_ints (o t : Int) : shiftAmount (.int o) (.int t) = .ok (o * 12 + t) := rfl

theorem shiftNote_list_ints (ns : List Int) (o t : Int) :
    shiftNote (.list (ns.map Atom.int)) (.int o) (.int t) = .ok (.list (ns.map fun n => Atom.int (n + 12 * o + t))) := by
  have hs : ∀ n : Int, n + (o * 12 + t) = n + 12 * o + t := by omega
  cases ns with
  | nil => rfl
  | cons x xs =>
    simp only [shiftNote, any_intOOM_ints, mapM_pyIntAtom_ints, shiftAmount_ints, ok_bind, hs]
    rfl

theorem shiftNote_tup_ints (ns : List Int) (o t : Int) :
    shiftNote (.tup (ns.map Atom.int)) (.int o) (.int t) = .ok (.list (ns.map fun n => Atom.int (n + 12 * o + t))) :=
  shiftNote_list_ints ns o t

theorem shiftNote_int (n o t : Int) : shiftNote (.int n) (.int o) (.int t) = .ok (.int (n + 12 * o + t)) := by
  have hs : n + (o * 12 + t) = n + 12 * o + t := by omega
  rw [← hs]
  rfl

theorem pullDefaults_keys (env : PatEnv) (l : Dict) (cur : Cursor) :
    (pullDefaults env l cur).1.map (·.1) = l.map (·.1) := by
  induction l generalizing cur with
  | nil => rfl
  | cons kv rest ih => simp only [pullDefaults, List.map_cons, ih]

theorem pullAtom_cursor (env : PatEnv) (x : Atom) (cur : Cursor) (id : Nat) :
    (pullAtom env x cur).2 id = cur id + (if x = .pat id then 1 else 0) := by
  unfold pullAtom
  split
  · simp only [bump, Atom.pat.injEq, eq_comm]
    split <;> rfl
  · next h => rw [if_neg (h id)]; rfl

theorem pullVal_cursor (env : PatEnv) (v : Val) (cur : Cursor) (id : Nat) :
    (pullVal env v cur).2 id = cur id + (if v = .a (.pat id) then 1 else 0) := by
  cases v <;> simp [pullVal, pullAtom_cursor]

theorem pullDefaults_cursor (env : PatEnv) (l : Dict) (cur : Cursor) (id : Nat) :
    (pullDefaults env l cur).2 id = cur id + patCountVals id l := by
  induction l generalizing cur with
  | nil => rfl
  | cons kv rest ih =>
    simp only [pullDefaults, ih, pullVal_cursor, patCountVals, List.filter_cons, decide_eq_true_eq, apply_ite List.length,
      List.length_cons]
    split <;> omega

theorem pullArgs_cursor (env : PatEnv) (l : List (String × Atom)) (cur : Cursor) (id : Nat) :
    (pullArgs env l cur).2 id = cur id + (l.filter fun kv => kv.2 = .pat id).length := by
  induction l generalizing cur with
  | nil => rfl
  | cons kv rest ih =>
    simp only [pullArgs, ih, pullAtom_cursor, List.filter_cons, decide_eq_true_eq, apply_ite List.length, List.length_cons]
    split <;> omega

theorem pullPayload_cursor (env : PatEnv) (p : Payload) (cur : Cursor) (id : Nat) :
    (pullPayload env p cur).2 id = cur id + patCountPayload id p := by
  cases p <;> simp [pullPayload, patCountPayload, pullArgs_cursor]

/-- the pulled defaults are themselves an assignment of timeline defaults: `Pattern.value` changes values, not names. -/
theorem effectiveDefaults_pulled (env : PatEnv) (cur : Cursor) (ov : Dict) :
    effectiveDefaults (pulledDefaults env cur ov) = pulledDefaults env cur ov := by
  unfold effectiveDefaults
  apply Dict.map_getD_of_same_keys
  · rw [pulledDefaults, pullDefaults_keys, effectiveDefaults, List.map_map]
    rfl
  · simp [libraryDefaults_keys]

end IsobarV.Event
