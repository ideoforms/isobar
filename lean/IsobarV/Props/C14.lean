/-
Property C14 — clock domains stay in ratio; the internal clock holds tempo under delay.

  "When an output device or clock source runs at a pulses-per-beat rate that divides or is a multiple of
   the timeline's, the device receives exactly rate_out / rate_in ticks per timeline tick on average,
   evenly spaced and with no cumulative error - so a MIDI clock output gets exactly 24 pulses per beat -
   and rates that are not whole multiples of one another are refused with a clock error (no later than
   the first tick) rather than approximated.  The internal clock delivers floor(elapsed / tick duration)
   ticks however late or irregularly the operating system wakes it (late ticks are caught up, none
   dropped or doubled) and follows a tempo change from the next tick, and an external MIDI clock
   advances the timeline by exactly one tick per clock message."

All statements are about the model in `IsobarV/Clock/Model.lean` (which mirrors the code after the
two `fix:` patches of `make_clock_multiplier`) and hold for all rates, run lengths, wake-up sequences and
message sequences; there is no bound anywhere.
-/
import IsobarV.Clock.Lemmas

namespace IsobarV.C14
open IsobarV.Clock

/-- the rate check of `make_clock_multiplier` passes exactly when one rate divides the other. -/
theorem accepts_iff (out inn : Nat) (ho : out ≠ 0) (hi : inn ≠ 0) :
    (Gen.mk' out inn).accepts = true ↔ (inn ∣ out ∨ out ∣ inn) := by
  simp [Gen.accepts, Gen.mk', ho, hi, Nat.dvd_iff_mod_eq_zero]

/-- When one rate divides the other, the first `n` input ticks produce exactly `⌈n · out / in⌉` output
    ticks (the generator starts with `pos = den`, a whole output tick's worth of phase, so the very first
    input tick already emits). -/
theorem mult_total (out inn n : Nat) (ho : out ≠ 0) (hi : inn ≠ 0) (hdiv : inn ∣ out ∨ out ∣ inn) :
    (Gen.mk' out inn).total n = (n * out + inn - 1) / inn := by
  rw [(Gen.closed_form (mk_live ((accepts_iff out inn ho hi).2 hdiv)) n).1, mk_pos, mk_num ho hi,
    mk_den ho hi, Nat.add_comm]

example : (Gen.mk' 24 480).total 960 = 48 := by
  rw [mult_total 24 480 960 (by decide) (by decide) (Or.inr ⟨20, rfl⟩)]

/-- No cumulative error, for any compatible pair of rates: a window of `w` input ticks, wherever it
    starts, that is worth a whole number `j` of output ticks (`w · out = j · in`) carries exactly `j`,
    and the generator's phase is back where it was. -/
theorem mult_window (out inn n : Nat) (ho : out ≠ 0) (hi : inn ≠ 0) (hdiv : inn ∣ out ∨ out ∣ inn)
    {w j : Nat} (hw : w * out = j * inn) :
    (Gen.mk' out inn).total (n + w) = (Gen.mk' out inn).total n + j ∧
    ((Gen.mk' out inn).after (n + w)).pos = ((Gen.mk' out inn).after n).pos :=
  Gen.window (mk_live ((accepts_iff out inn ho hi).2 hdiv)) n
    (by rw [mk_num ho hi, mk_den ho hi]; exact hw)

/-- Multiplier (`out = m · in`): `n · m` output ticks after `n` input ticks. -/
theorem mult_total_multiple (m inn n : Nat) (hm : m ≠ 0) (hi : inn ≠ 0) :
    (Gen.mk' (m * inn) inn).total n = n * m := by
  rw [mult_total _ _ _ (Nat.mul_ne_zero hm hi) hi (Or.inl ⟨m, Nat.mul_comm _ _⟩), ← Nat.mul_assoc,
    ceil_mul_div _ (Nat.pos_of_ne_zero hi)]

example : (Gen.mk' (20 * 24) 24).total 7 = 140 := mult_total_multiple 20 24 7 (by decide) (by decide)

/-- Divider (`in = d · out`): `⌈n / d⌉` output ticks after `n` input ticks. -/
theorem mult_total_divider (d out n : Nat) (hd : d ≠ 0) (ho : out ≠ 0) :
    (Gen.mk' out (d * out)).total n = (n + d - 1) / d := by
  obtain ⟨e, rfl⟩ := Nat.exists_eq_add_one_of_ne_zero hd
  rw [mult_total _ _ _ ho (Nat.mul_ne_zero hd ho) (Or.inr ⟨_, Nat.mul_comm _ _⟩), ← Nat.add_mul, ← Nat.add_assoc,
    Nat.succ_mul, Nat.mul_comm (e + 1) out, ← Nat.div_div_eq_div_mul, ceil_mul_div _ (Nat.pos_of_ne_zero ho),
    Nat.add_sub_cancel]

example : (Gen.mk' 24 (20 * 24)).total 41 = 3 := mult_total_divider 20 24 41 (by decide) (by decide)

/-- A rate that is `None`/`0` (a device without a clock, a clock without a target) is driven 1:1. -/
theorem mult_unset_rates (out inn n : Nat) (h : out = 0 ∨ inn = 0) : (Gen.mk' out inn).total n = n := by
  obtain ⟨hnum, hden, hacc⟩ := mk_unset fun ⟨a, b⟩ => h.elim a b
  rw [(Gen.closed_form (mk_live hacc) n).1, mk_pos, hnum, hden, Nat.mul_one, Nat.add_sub_cancel_left, Nat.div_one]

example : (Gen.mk' 0 480).total 5 = 5 := mult_unset_rates 0 480 5 (Or.inl rfl)

/-- Even spacing, multiplier: every input tick carries exactly `m` output ticks. -/
theorem mult_even_spacing_multiple (m inn i : Nat) (hm : m ≠ 0) (hi : inn ≠ 0) :
    (Gen.mk' (m * inn) inn).emit i = .ticks m := by
  have ho : m * inn ≠ 0 := Nat.mul_ne_zero hm hi
  have hdiv : inn ∣ m * inn ∨ m * inn ∣ inn := Or.inl ⟨m, Nat.mul_comm _ _⟩
  rw [Gen.emit_count (mk_live ((accepts_iff _ inn ho hi).2 hdiv)),
    (mult_window _ inn i ho hi hdiv (Nat.one_mul _)).1, Nat.add_sub_cancel_left]

example : (Gen.mk' (2 * 24) 24).emit 1000 = .ticks 2 := mult_even_spacing_multiple 2 24 1000 (by decide) (by decide)

/-- Even spacing, divider: the output ticks fall exactly on the input ticks `0, d, 2d, …`
    (0-based), one each, and nowhere else. -/
theorem mult_even_spacing_divider (d out i : Nat) (hd : d ≠ 0) (ho : out ≠ 0) :
    (Gen.mk' out (d * out)).emit i = .ticks (if i % d = 0 then 1 else 0) := by
  have hi : d * out ≠ 0 := Nat.mul_ne_zero hd ho
  have hl := mk_live ((accepts_iff out _ ho hi).2 (Or.inr ⟨d, Nat.mul_comm _ _⟩))
  rw [Gen.emit_count hl, mult_total_divider d out _ hd ho, mult_total_divider d out _ hd ho,
    cdiv_step i d (Nat.pos_of_ne_zero hd)]

example : (Gen.mk' 24 (20 * 24)).emit 40 = .ticks 1 := mult_even_spacing_divider 20 24 40 (by decide) (by decide)
example : (Gen.mk' 24 (20 * 24)).emit 41 = .ticks 0 := mult_even_spacing_divider 20 24 41 (by decide) (by decide)

/-- Any window of `k · d` input ticks, wherever it starts, carries
    exactly `k` output ticks, and the generator's phase is back where it was: nothing accumulates. -/
theorem mult_no_cumulative_error (d out n k : Nat) (hd : d ≠ 0) (ho : out ≠ 0) :
    (Gen.mk' out (d * out)).total (n + k * d) = (Gen.mk' out (d * out)).total n + k ∧
    ((Gen.mk' out (d * out)).after (n + k * d)).pos = ((Gen.mk' out (d * out)).after n).pos :=
  mult_window out (d * out) n ho (Nat.mul_ne_zero hd ho) (Or.inr ⟨d, Nat.mul_comm _ _⟩) (Nat.mul_assoc k d out)

example : (Gen.mk' 24 (20 * 24)).total (7 + 1000 * 20) = (Gen.mk' 24 (20 * 24)).total 7 + 1000 :=
  (mult_no_cumulative_error 20 24 7 1000 (by decide) (by decide)).1

/-- The same for a multiplier: every window of `k` input ticks carries exactly `k · m` output ticks. -/
theorem mult_no_cumulative_error_multiple (m inn n k : Nat) (hm : m ≠ 0) (hi : inn ≠ 0) :
    (Gen.mk' (m * inn) inn).total (n + k) = (Gen.mk' (m * inn) inn).total n + k * m :=
  (mult_window (m * inn) inn n (Nat.mul_ne_zero hm hi) hi (Or.inl ⟨m, Nat.mul_comm _ _⟩)
    (Nat.mul_assoc k m inn).symm).1

example : (Gen.mk' (4 * 24) 24).total (3 + 5) = (Gen.mk' (4 * 24) 24).total 3 + 20 :=
  mult_no_cumulative_error_multiple 4 24 3 5 (by decide) (by decide)

/-- The first `next` raises the clock error exactly when both rates are
    set and neither divides the other. -/
theorem refuse_iff_not_dividing (out inn : Nat) :
    (Gen.mk' out inn).next.res = .clockError ↔ (out ≠ 0 ∧ inn ≠ 0 ∧ ¬ inn ∣ out ∧ ¬ out ∣ inn) := by
  rw [Gen.refused_iff rfl]
  by_cases h : out ≠ 0 ∧ inn ≠ 0
  · rw [Bool.eq_false_iff, Ne, accepts_iff out inn h.1 h.2, not_or]
    exact ⟨fun x => ⟨h.1, h.2, x⟩, fun x => x.2.2⟩
  · rw [(mk_unset h).2.2]
    exact ⟨nofun, fun x => absurd ⟨x.1, x.2.1⟩ h⟩

example : (Gen.mk' 24 100).next.res = .clockError :=
  (refuse_iff_not_dividing 24 100).2 ⟨by decide, by decide, by decide, by decide⟩
example : (Gen.mk' 1 49).next.res ≠ .clockError := fun h =>
  ((refuse_iff_not_dividing 1 49).1 h).2.2.2 ⟨49, rfl⟩

/-- Refused means refused, not approximated: an incompatible pair never yields a single output tick,
    and every `next` after the error raises StopIteration. -/
theorem refused_never_ticks (out inn : Nat) (h : (Gen.mk' out inn).next.res = .clockError) (n : Nat) :
    (Gen.mk' out inn).total n = 0 ∧ (Gen.mk' out inn).emit (n + 1) = .stopIteration := by
  have hemit : ∀ k, (Gen.mk' out inn).emit (k + 1) = .stopIteration := fun k => by
    rw [Gen.emit, Gen.after_refused rfl ((Gen.refused_iff rfl).1 h), Gen.next_finished rfl]
  refine ⟨?_, hemit n⟩
  induction n with
  | zero => rfl
  | succ k ih =>
    rw [Gen.total, ih]
    cases k with
    | zero => show 0 + (Gen.mk' out inn).next.res.count = 0; rw [h]; rfl
    | succ j => rw [hemit j]; rfl

example : (Gen.mk' 24 100).total 1000 = 0 :=
  (refused_never_ticks 24 100 ((refuse_iff_not_dividing 24 100).2 ⟨by decide, by decide, by decide, by decide⟩) 1000).1

/-- A 24-PPQN device (a MIDI clock output) on a timeline of any compatible
    resolution receives exactly `24 · b` ticks during the first `b` beats, for every `b`. -/
theorem midi_24_per_beat (tpb b : Nat) (ht : tpb ≠ 0) (hdiv : tpb ∣ 24 ∨ 24 ∣ tpb) :
    (Gen.mk' 24 tpb).total (b * tpb) = 24 * b := by
  rw [mult_total 24 tpb _ (by decide) ht hdiv, Nat.mul_right_comm, ceil_mul_div _ (Nat.pos_of_ne_zero ht),
    Nat.mul_comm]

example : (Gen.mk' 24 480).total (1000000 * 480) = 24 * 1000000 :=
  midi_24_per_beat 480 1000000 (by decide) (Or.inr ⟨20, rfl⟩)
example : (Gen.mk' 24 1176).total (3 * 1176) = 72 := midi_24_per_beat 1176 3 (by decide) (Or.inr ⟨49, rfl⟩)

/-- On a timeline whose devices all have compatible rates, every tick
    succeeds, time advances by one tick per tick, and each device receives exactly what its own
    multiplier yields — whatever the other devices' rates are and wherever it sits in the device list. -/
theorem device_ratio_in_timeline (tl : TL) (hlive : ∀ dv ∈ tl.devs, dv.gen.Live)
    (hids : tl.devs.Pairwise (fun a b => a.id ≠ b.id)) (n : Nat) :
    (tl.after n).tick.res = .ok ∧ (tl.after n).now = tl.now + n ∧
    ∀ dv ∈ tl.devs, tl.devTotal dv.id n = dv.gen.total n := by
  refine ⟨?_, ?_, fun dv hd => ?_⟩
  · rw [TL.after_live tl hlive n, TL.tick_after hlive rfl]
  · rw [TL.after_live tl hlive n]
  · induction n with
    | zero => rfl
    | succ n ih =>
      rw [TL.devTotal, ih, TL.after_live tl hlive n, TL.tick_after hlive rfl]
      exact congrArg _ (callsOf_after hids hd n)

/-- A 480-PPQN timeline with a MIDI device (24), a 960-PPQN device and a clockless device. -/
example : ((((TL.mk 480 [] 0).addDevice 24).addDevice 960).addDevice 0).devTotal 0 960 = 48 := by
  have h := device_ratio_in_timeline ((((TL.mk 480 [] 0).addDevice 24).addDevice 960).addDevice 0)
    (by decide) (by decide) 960
  rw [h.2.2 ⟨0, Gen.mk' 24 480⟩ (by decide)]
  exact mult_total 24 480 960 (by decide) (by decide) (Or.inr ⟨20, rfl⟩)

/-- A device whose rate is incompatible makes the very first
    `Timeline.tick` raise the clock error; the device itself is never ticked and time does not advance. -/
theorem refused_at_first_tick (tl : TL) (pre post : List Dev) (bad : Dev)
    (hdevs : tl.devs = pre ++ bad :: post) (hpre : ∀ dv ∈ pre, dv.gen.Live ∧ dv.id ≠ bad.id)
    (hfresh : bad.gen.st = .fresh) (hbad : bad.gen.next.res = .clockError) :
    tl.tick.res = .clockError ∧ callsOf bad.id tl.tick.calls = 0 ∧ tl.tick.tl.now = tl.now := by
  rw [TL.tick, hdevs, devLoop_append_live pre _ fun dv hd => (hpre dv hd).1,
    devLoop_refused hfresh ((Gen.refused_iff hfresh).1 hbad)]
  refine ⟨rfl, ?_, rfl⟩
  show callsOf bad.id (tickCalls pre ++ []) = 0
  rw [List.append_nil]
  exact callsOf_tickCalls_of_ne bad.id pre fun dv hd => (hpre dv hd).2

example : (((TL.mk 480 [] 0).addDevice 24).addDevice 100).tick.res = .clockError :=
  (refused_at_first_tick _ [⟨0, Gen.mk' 24 480⟩] [] ⟨1, Gen.mk' 100 480⟩ rfl (by decide) rfl (by decide)).1

/-- From any state of a running clock, for *every* sequence of wake-up readings
    (late, irregular, even going backwards), with a target that leaves the clock alone: the number of
    clock ticks made is `⌊(M - clock0) / d⌋`, where `M` is the largest reading seen so far; `clock0` has
    advanced by exactly that many tick durations (so every tick is accounted for exactly once: none
    dropped, none doubled), and the target has received what the clock's multiplier yields for them. -/
theorem clock_catch_up {τ : Type} (T : Target τ) (hT : KeepTarget T) (s : Clk τ)
    (hres : s.res = .ok) (hrun : s.running = true) (hd : 0 < s.d) (hgen : s.gen.Live) (ws : List Int) :
    let s' := s.run T (ws.map Ev.wake)
    let M := ws.foldl max s.c0
    s'.raw = s.raw + ((M - s.c0) / (s.d : Int)).toNat ∧
    s'.c0 = s.c0 + ((s'.raw - s.raw) * s.d : Nat) ∧
    s'.ticks = s.ticks + s.gen.total (s'.raw - s.raw) ∧
    s'.d = s.d ∧ s'.res = .ok := by
  intro s' M
  obtain ⟨hres', -, hd', ⟨k, k1, k2, -, k4⟩, hlo, hhi⟩ := run_rel hT hd hgen (Rel.refl s hres hrun hd) ws
  -- `M` lies less than one tick duration after `clock0`, which has moved on by `k` durations
  have hk : (M - s.c0) / (s.d : Int) = k := by
    have e : M - s.c0 = M - s'.c0 + (k : Int) * (s.d : Int) := by
      rw [k2, Int.natCast_mul, ← Int.sub_sub, Int.sub_add_cancel]
    rw [e, Int.add_mul_ediv_right _ _ (Int.natCast_ne_zero.2 (Nat.ne_of_gt hd)),
      Int.ediv_eq_zero_of_lt (Int.sub_nonneg.2 hlo) (Int.sub_left_lt_of_lt_add hhi), Int.zero_add]
  have e : s'.raw - s.raw = k := by rw [k1]; exact Nat.add_sub_cancel_left ..
  rw [hk, e]
  exact ⟨k1, k2, k4, hd', hres'⟩

/-- `clock_catch_up` for a freshly started clock and readings that never go backwards: after the
    reading `T ≥ t0`, exactly `⌊(T - t0) / d⌋` ticks have been delivered. -/
theorem clock_catch_up_nondecreasing {τ : Type} (T : Target τ) (hT : KeepTarget T)
    (t0 : Int) (d : Nat) (gen : Gen) (tgt : τ) (hd : 0 < d) (hgen : gen.Live)
    (ws : List Int) (hws : Nondecreasing t0 ws) :
    let s' := (Clk.init t0 d gen tgt).run T (ws.map Ev.wake)
    s'.raw = ((ws.getLastD t0 - t0) / (d : Int)).toNat ∧ s'.ticks = gen.total s'.raw ∧
    s'.c0 = t0 + ((s'.raw * d : Nat) : Int) := by
  intro s'
  have h := clock_catch_up T hT (Clk.init t0 d gen tgt) rfl rfl hd hgen ws
  simp only [Clk.init] at h
  rw [foldl_max_nondecreasing ws t0 hws] at h
  obtain ⟨h1, h2, h3, _, _⟩ := h
  simp only [Nat.zero_add, Nat.sub_zero] at h1 h2 h3
  exact ⟨h1, h3, h2⟩

/-- 1/64 s ticks (here 1 unit = 1/64 s), wake-ups after 0.5, 3, 3 and 230.7 tick durations. -/
example : ((Clk.init 1000 64 (Gen.mk' 0 0) ()).run idleTarget
    ([1032, 1192, 1192, 15765].map Ev.wake)).raw = 230 := by
  have := (clock_catch_up_nondecreasing idleTarget (fun _ => rfl) 1000 64 (Gen.mk' 0 0) () (by decide)
    (mk_live rfl) [1032, 1192, 1192, 15765] (by decide)).1
  rw [this]; decide

/-- None dropped, none doubled, late ones caught up: with readings
    that never go backwards, tick number `k ≥ 1` is made during the wake-up with reading `w` if and only
    if `w` is the first reading at or after the tick's due time `t0 + k·d` (the previous reading was
    still before it).  So every tick is delivered exactly once, at the first opportunity. -/
theorem tick_delivered_once_on_time {τ : Type} (T : Target τ) (hT : KeepTarget T)
    (t0 : Int) (d : Nat) (gen : Gen) (tgt : τ) (hd : 0 < d) (hgen : gen.Live)
    (ws : List Int) (w : Int) (hws : Nondecreasing t0 (ws ++ [w])) (k : Nat) :
    let before := ((Clk.init t0 d gen tgt).run T (ws.map Ev.wake)).raw
    let after := ((Clk.init t0 d gen tgt).run T ((ws ++ [w]).map Ev.wake)).raw
    (before < k ∧ k ≤ after) ↔ (ws.getLastD t0 < t0 + (k : Int) * d ∧ t0 + (k : Int) * d ≤ w) := by
  intro before after
  obtain ⟨h1, h2, h3, h4⟩ := Nondecreasing.append_last ws t0 w hws
  have hb : before = ((ws.getLastD t0 - t0) / (d : Int)).toNat :=
    (clock_catch_up_nondecreasing T hT t0 d gen tgt hd hgen ws h1).1
  have ha : after = ((w - t0) / (d : Int)).toNat :=
    h4 ▸ (clock_catch_up_nondecreasing T hT t0 d gen tgt hd hgen (ws ++ [w]) hws).1
  rw [← Nat.not_lt, hb, ha, toNat_ediv_lt hd h3, toNat_ediv_lt hd (Int.le_trans h3 h2), Int.not_lt]

/-- Ticks of 64 units from 1000: tick 3 (due at 1192) is not made at reading 1191 but at 1500, together
    with ticks 4–7 that became due during the stall. -/
example : ((Clk.init 1000 64 (Gen.mk' 0 0) ()).run idleTarget ([1100, 1191].map Ev.wake)).raw < 3 ∧
    3 ≤ ((Clk.init 1000 64 (Gen.mk' 0 0) ()).run idleTarget ((([1100, 1191] : List Int) ++ [1500]).map Ev.wake)).raw :=
  (tick_delivered_once_on_time idleTarget (fun _ => rfl) 1000 64 (Gen.mk' 0 0) () (by decide) (mk_live rfl)
    [1100, 1191] 1500 (by decide) 3).2 (by decide)

/-- A tempo change made while the clock sleeps moves nothing that has
    already happened (`clock0`, the due time of the last delivered tick, and the tick count stay);
    from then on the next tick is due exactly one *new* tick duration after the last one and the
    ticks follow at the new spacing: after the change `⌊(M - clock0) / d'⌋` further ticks are made. -/
theorem tempo_change_next_tick {τ : Type} (T : Target τ) (hT : KeepTarget T) (s : Clk τ)
    (hres : s.res = .ok) (hrun : s.running = true) (hgen : s.gen.Live) (d' : Nat) (hd' : 0 < d')
    (ws : List Int) :
    let s' := s.run T (Ev.setDur d' :: ws.map Ev.wake)
    let M := ws.foldl max s.c0
    s'.raw = s.raw + ((M - s.c0) / (d' : Int)).toNat ∧
    s'.c0 = s.c0 + ((s'.raw - s.raw) * d' : Nat) ∧
    s'.ticks = s.ticks + s.gen.total (s'.raw - s.raw) := by
  intro s' M
  have h := clock_catch_up T hT { s with d := d' } hres hrun hd' hgen ws
  exact ⟨h.1, h.2.1, h.2.2.1⟩

/-- Two phases: tick duration 64 for readings up to 1200 (3 ticks, clock0 = 1192), then duration 16:
    the next ticks are due at 1208, 1224, …; at reading 1260 four more have been made. -/
example : ((Clk.init 1000 64 (Gen.mk' 0 0) ()).run idleTarget
    ([Ev.wake 1100, Ev.wake 1200, Ev.setDur 16, Ev.wake 1207, Ev.wake 1260])).raw = 7 := by decide

/-- What the code does (observation O1 in `notes/NOTES-C14.md` §4) when the target's own `tick()` sets
    the tempo: `clock0` advances by the *new* duration for the tick that was just delivered under the
    old one: the following tick is due `2·d' - d` (not `d'`) after this one's due time; from then on
    `tempo_change_next_tick`/`clock_catch_up` apply with the new duration. -/
theorem tempo_change_in_callback {τ : Type} (T : Target τ) (s : Clk τ) (now : Int) (d' : Nat) (t' : τ)
    (hres : s.res = .ok) (hrun : s.running = true) (hgen : s.gen.next.res = .ticks 1)
    (hcb : T.tick s.tgt = { act := .setDur d', tgt := t' })
    (hdue : (s.d : Int) ≤ now - s.c0) (hone : now - (s.c0 + (d' : Int)) < (s.d : Int)) :
    (s.wake T now).raw = s.raw + 1 ∧ (s.wake T now).ticks = s.ticks + 1 ∧ (s.wake T now).d = d' ∧
    (s.wake T now).c0 = s.c0 + (d' : Int) ∧ (s.wake T now).res = .ok := by
  rw [Clk.wake, hres]
  simp only [hrun, if_true]
  rw [catchUp, if_pos hdue]
  simp only [hgen, deliver, hcb, hres]
  rw [catchUp_exit]
  · exact ⟨rfl, rfl, rfl, rfl, rfl⟩
  · exact Int.not_le.2 hone

example : ((Clk.init 1000 64 (Gen.mk' 0 0) 0).run (scriptTarget (fun j => if j = 0 then .setDur 32 else .keep))
    [Ev.wake 1064]).c0 = 1032 := by decide

/-- After `stop()` no further tick is delivered, whatever happens next (nor after an exception has ended
    `run()`: `run_halted`). -/
theorem stop_halts {τ : Type} (T : Target τ) (s : Clk τ) (evs : List Ev) :
    (s.run T (Ev.stop :: evs)).ticks = s.ticks ∧ (s.run T (Ev.stop :: evs)).raw = s.raw :=
  run_halted T evs { s with running := false } (Or.inl rfl)

example : ((Clk.init 0 10 (Gen.mk' 0 0) ()).run idleTarget [Ev.wake 35, Ev.stop, Ev.wake 1000]).ticks = 3 := by
  decide

/-- The calls made on the clock target are, in order, exactly the images of
    the messages: clock ↦ tick, start ↦ start, stop ↦ stop, songpos 0 ↦ reset; a song position other
    than 0 and every other message cause no call.  Without a target nothing is called. -/
theorem start_stop_songpos (m : MidiIn) (msgs : List Msg) :
    (m.run msgs).calls = if m.hasTarget then m.calls ++ msgs.filterMap Msg.call else m.calls := by
  induction msgs generalizing m with
  | nil => simp [MidiIn.run]
  | cons x xs ih =>
    have := ih (m.recv x)
    rw [(m.recv_calls x).1, (m.recv_calls x).2] at this
    rw [MidiIn.run, List.foldl_cons, ← MidiIn.run, this, List.filterMap_cons]
    cases m.hasTarget <;> cases x.call <;> simp

example : (({} : MidiIn).run [.start, .clock, .songpos 0, .songpos 7, .note 3, .stop]).calls
    = [.start, .tick, .reset, .stop] := by
  rw [start_stop_songpos]; decide

/-- For every message sequence, the clock target's `tick()` is called
    exactly once per `clock` message — start/stop/song-position/notes/anything else never tick it. -/
theorem one_tick_per_clock_message (m : MidiIn) (msgs : List Msg) (h : m.hasTarget = true) :
    (m.run msgs).calls.count .tick = m.calls.count .tick + msgs.count .clock := by
  rw [start_stop_songpos, h, if_pos rfl, List.count_append, List.count_filterMap]
  refine congrArg _ (List.countP_congr fun x _ => ?_)
  cases x with
  | songpos p => cases p <;> exact Iff.rfl
  | _ => exact Iff.rfl

example : (({} : MidiIn).run [.start, .clock, .note 1, .clock, .songpos 5, .stop, .clock, .other]).calls.count .tick = 3 := by
  rw [one_tick_per_clock_message _ _ rfl]; decide

/-- A timeline slaved to the MIDI input, with compatible devices:
    every `clock` message performs exactly one successful `Timeline.tick` (none raises), the time
    advances by one tick per clock message (as long as no `songpos 0` resets it), and each device has
    received exactly what its multiplier yields for that many ticks. -/
theorem slave_one_tick_per_clock (s : Slave) (msgs : List Msg) (hlive : ∀ dv ∈ s.tl.devs, dv.gen.Live)
    (hids : s.tl.devs.Pairwise (fun a b => a.id ≠ b.id)) :
    (s.run msgs).errs = s.errs ∧
    (s.run msgs).log.length = s.log.length + msgs.count .clock ∧
    ((∀ m ∈ msgs, m ≠ .songpos 0) → (s.run msgs).tl.now = s.tl.now + msgs.count .clock) ∧
    (∀ dv ∈ s.tl.devs, callsOf dv.id (s.run msgs).log.flatten =
        callsOf dv.id s.log.flatten + dv.gen.total (msgs.count .clock)) :=
  let h := Slave.run_live hlive hids (Slave.At.refl s) msgs
  ⟨h.1.errs, h.1.len, h.2, h.1.calls⟩

/-- 24-PPQN MIDI clock in, a 48-PPQN device out: 3 clock messages → 3 timeline ticks, 6 device ticks. -/
example : callsOf 0 ((Slave.mk ((TL.mk 24 [] 0).addDevice 48) [] []).run
    [.start, .clock, .clock, .stop, .clock]).log.flatten = 6 := by decide

end IsobarV.C14
