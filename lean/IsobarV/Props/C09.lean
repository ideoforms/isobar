/-
C09 — patterns obey the iterator protocol; helpers agree; copies are independent.

Generic theorems and the tools of the class-wise proofs: `IsobarV/Pat/Sticky.lean` (`sticky_stepF`, `nextn_vals`,
`all_vals`, `len_spec`, `copy_continues`; `DeadAt`, `clsOuts_noVal`, …).  This file proves stickiness class by class
for the core classes and instantiates the theorem; further classes register their lemma in
`IsobarV/Props/C09_*.lean`.
-/
import IsobarV.Pat.Sticky

namespace IsobarV.C09
open IsobarV.Pat

theorem const_sticky : ClsSticky .const := .of_never_stops fun _ _ _ => ⟨.refl, Out.noConfusion⟩

theorem ref_sticky : ClsSticky .ref :=
  .of_input (step := stepRef) rfl (fun _ => True) (fun _ _ _ => Stepped.refl.step 0) (fun hs => ⟨hs, trivial⟩)
    (fun _ _ => rfl)

/-- What a one-input map returns when its input yields no value. -/
theorem stepUn_noVal (f : Val → Out) {rec : Rec} {kids : List Pat} (st : St) (h : NoVal (stepKid rec kids 0).1) :
    stepUn f rec kids st = ⟨(stepKid rec kids 0).1, (stepKid rec kids 0).2, st⟩ := by
  simp only [stepUn]
  split
  · rename_i a ha; exact absurd ha (h a)
  · rfl

/-- One-input maps whose function never itself signals StopIteration. -/
theorem un_sticky (f : Val → Out) (c : Cls) (hc : clsStep c = stepUn f) (hf : ∀ a, f a ≠ .stop) : ClsSticky c :=
  .of_input hc (fun _ => True) (fun rec kids st => (stepUn_stepped f rec kids st).1)
    (fun {rec kids st} hs => by
      rcases Out.val_or_noVal (stepKid rec kids 0).1 with ⟨a, ha⟩ | hn
      · simp only [stepUn, ha] at hs; exact absurd hs (hf a)
      · rw [stepUn_noVal f st hn] at hs; exact ⟨hs, trivial⟩)
    (fun _ h => stepUn_noVal f _ h)

/-- A binary operator by the outcomes of its operands: both yield values; `a` does and `b` does not; `a` does not
    (then `b` is not touched). -/
theorem stepBin_cases (f : Val → Val → Out) (rec : Rec) (kids : List Pat) (st : St) :
    (∃ a, (stepKid rec kids 0).1 = .val a ∧
      ((∃ b, (stepKid rec (stepKid rec kids 0).2 1).1 = .val b ∧
          stepBin f rec kids st = ⟨f a b, (stepKid rec (stepKid rec kids 0).2 1).2, st⟩) ∨
        (NoVal (stepKid rec (stepKid rec kids 0).2 1).1 ∧
          stepBin f rec kids st = ⟨(stepKid rec (stepKid rec kids 0).2 1).1, (stepKid rec (stepKid rec kids 0).2 1).2, st⟩))) ∨
    (NoVal (stepKid rec kids 0).1 ∧ stepBin f rec kids st = ⟨(stepKid rec kids 0).1, (stepKid rec kids 0).2, st⟩) := by
  simp only [stepBin]
  rcases Out.val_or_noVal (stepKid rec kids 0).1 with ⟨a, ha⟩ | hn
  · refine .inl ⟨a, ha, ?_⟩
    simp only [ha]
    rcases Out.val_or_noVal (stepKid rec (stepKid rec kids 0).2 1).1 with ⟨b, hb⟩ | hn
    · exact .inl ⟨b, hb, by simp only [hb]⟩
    · refine .inr ⟨hn, ?_⟩
      split
      · rename_i b hb; exact absurd hb (hn b)
      · rfl
  · refine .inr ⟨hn, ?_⟩
    split
    · rename_i a ha; exact absurd ha (hn a)
    · rfl

/-- Binary operators: once either operand is dead no value is ever produced again. -/
theorem bin_sticky (f : Val → Val → Out) (c : Cls) (hc : clsStep c = stepBin f) (hf : ∀ a b, f a b ≠ .stop) :
    ClsSticky c :=
  .of_absorbing hc (fun rec kids _ => DeadAt rec kids 0 ∨ DeadAt rec kids 1)
    (fun rec kids st => (stepBin_stepped f rec kids st).1)
    (fun {_ rec kids st} hrec hk hs => by
      rcases stepBin_cases f rec kids st with ⟨a, _, ⟨b, _, e⟩ | ⟨_, e⟩⟩ | ⟨_, e⟩ <;> rw [e] at hs ⊢
      · exact absurd hs (hf a b)
      · exact .inr (stepKid_stop_dead hrec ((Stepped.refl.step 0).sticky hrec hk) hs)
      · exact .inl (stepKid_stop_dead hrec hk hs))
    (fun {rec kids st} h => by
      rcases h with h | h
      · rcases stepBin_cases f rec kids st with ⟨a, ha, _⟩ | ⟨_, e⟩
        · exact absurd ha (h.step.1 a)
        · rw [e]; exact ⟨h.step.1, .inl h.step.2⟩
      · have h1 := (h.other (j := 0) (by decide)).step
        rcases stepBin_cases f rec kids st with ⟨a, _, ⟨b, hb, _⟩ | ⟨_, e⟩⟩ | ⟨hn, e⟩
        · exact absurd hb (h1.1 b)
        · rw [e]; exact ⟨h1.1, .inr h1.2⟩
        · rw [e]; exact ⟨hn, .inr (h.other (by decide))⟩)

/-- A sequence that has not used up its repeats passes on what the item at `pos` does when that is no value
    (`pos` is not advanced: the item is polled again). -/
theorem stepSeq_noVal {rec : Rec} {kids : List Pat} {st : St}
    (hg : ¬ (kids.length = 0 ∨ (0 ≤ st.n0 ∧ st.n0 ≤ st.n2))) (hn : NoVal (stepKid rec kids st.n1.toNat).1) :
    stepSeq rec kids st = ⟨(stepKid rec kids st.n1.toNat).1, (stepKid rec kids st.n1.toNat).2, st⟩ := by
  simp only [stepSeq, if_neg hg]
  split
  · rename_i v hv; exact absurd hv (hn v)
  · rfl

/-- `PSequence`: it ends when its repeats are used up (state untouched: it ends again), or when the
    item at `pos` ends (the dead item is polled again). -/
theorem seq_sticky : ClsSticky .seq :=
  .of_absorbing (step := stepSeq) rfl
    (fun rec kids st => (kids.length = 0 ∨ (0 ≤ st.n0 ∧ st.n0 ≤ st.n2)) ∨ DeadAt rec kids st.n1.toNat)
    (fun rec kids st => (stepSeq_stepped rec kids st).1)
    (fun {_ rec kids st} hrec hk hs => by
      by_cases hg : kids.length = 0 ∨ (0 ≤ st.n0 ∧ st.n0 ≤ st.n2)
      · simp only [stepSeq, if_pos hg]; exact .inl hg
      · rcases Out.val_or_noVal (stepKid rec kids st.n1.toNat).1 with ⟨v, hv⟩ | hn
        · simp only [stepSeq, if_neg hg, hv] at hs; split at hs <;> cases hs
        · rw [stepSeq_noVal hg hn] at hs ⊢; exact .inr (stepKid_stop_dead hrec hk hs))
    (fun {rec kids st} h => by
      by_cases hg : kids.length = 0 ∨ (0 ≤ st.n0 ∧ st.n0 ≤ st.n2)
      · simp only [stepSeq, if_pos hg]; exact ⟨noVal_stop, .inl hg⟩
      · have hd := (h.resolve_left hg).step
        rw [stepSeq_noVal hg hd.1]; exact ⟨hd.1, .inr hd.2⟩)

/-- Sticky core classes (array lookup is a selector, not a finite pattern: with a cycling index it
    may yield again after an exhausted item, and is deliberately not in this set). -/
def StickyCore (c : Cls) : Prop :=
  c = .const ∨ c = .ref ∨ c = .seq ∨ c = .abs ∨ c = .int ∨
  c = .add ∨ c = .sub ∨ c = .mul ∨ c = .div ∨ c = .floorDiv ∨ c = .mod ∨ c = .pow ∨ c = .lshift ∨ c = .rshift ∨
  c = .eq ∨ c = .ne ∨ c = .gt ∨ c = .ge ∨ c = .lt ∨ c = .le ∨ c = .and

theorem core_sticky (c : Cls) (h : StickyCore c) : ClsSticky c := by
  unfold StickyCore at h
  rcases h with h | h | h | h | h | h | h | h | h | h | h | h | h | h | h | h | h | h | h | h | h <;> subst h
  · exact const_sticky
  · exact ref_sticky
  · exact seq_sticky
  · exact un_sticky absVal _ rfl absVal_ne_stop
  · exact un_sticky intVal _ rfl intVal_ne_stop
  all_goals first
    | exact bin_sticky _ _ rfl (binopVal_ne_stop _)
    | exact bin_sticky andVal _ rfl (by intro a b; simp [andVal])

/-- **C09 for the core classes**: in any expression built from constants, sequences (nested to any
    depth), references, `abs`, `int` and all operators, once `next()` has raised StopIteration no later
    `next()` yields a value. -/
theorem sticky_core (fuel : Nat) (p : Pat) (hp : AllCls StickyCore p) (hstop : (stepF fuel p).out = .stop) :
    ∀ n, ∀ o ∈ outs fuel n (stepF fuel p).p, NoVal o :=
  (sticky_stepF core_sticky fuel p hp).2 hstop

/-! Non-vacuity -/
section Example
def sq (xs : List Int) (rep : Int) : Pat := .node .seq (xs.map (fun i => Pat.const (.int i))) { n0 := rep }
def ex : Pat := .node .add [sq [1, 2] 1, sq [10, 20, 30] (-1)] {}
example : outs 10 6 ex = [.val (.int 11), .val (.int 22), .stop, .stop, .stop, .stop] := by decide
example : (nextn 10 5 ex).vals = [.int 11, .int 22] ∧ (len 10 100 ex).1 = some 2 := by decide
end Example

end IsobarV.C09
