/-
C07 / C17 over whole runs — the multi-tick form of non-interference and of fault isolation.

`C07.non_interference` is about one tick.  Here the statement is lifted to any number of consecutive
ticks: what the timeline does besides its tracks (the time, the queue of pending starts) evolves
independently of the tracks (`Frame`), every track follows a trajectory of its own (`alone`) which is
a function of that track and the frame only, and the device calls of every tick are, phase by phase
and in scheduling order, the concatenation of what each track does on its own trajectory — which is
literally what the timeline holding that track alone does (`alone_is_the_solo_timeline`).

A run here is `ticks W n tl`: `n` consecutive `Timeline.tick`s with nothing in between (the history
`List.replicate n .tick` of `Sched.run`) — no API call from outside and, by the hypotheses of the theorems, none
from a callback (`NoActions`), stop-when-done off.  Histories with API calls are the subject of C02 and C06.
-/
import IsobarV.Props.C12Names  -- the audit of C07 looks the `Globals` theorems up through this module
import IsobarV.Props.C07
import IsobarV.Sched.Multi

namespace IsobarV.C07
open IsobarV.Sched

/-- What a track sees of the timeline: tick length, time, pending start actions.  (The `_frame` lemmas of `Sched`
    are something else: they say which fields of a record an operation leaves alone.) -/
structure Frame where
  q : Nat
  now : Nat
  actions : List PAct
  deriving Repr

def Frame.due (f : Frame) (a : PAct) : Bool := a.time ≤ f.now * f.q
/-- One tick later: the time has advanced, the due starts are consumed. -/
def Frame.next (f : Frame) : Frame := { f with now := f.now + 1, actions := f.actions.filter (fun a => ! f.due a) }
def Frame.after (f : Frame) : Nat → Frame
  | 0 => f
  | n + 1 => (f.after n).next
def frameOf (tl : TL) : Frame := { q := tl.q, now := tl.now, actions := tl.actions }

/-- A track at the start of the event phase: its due note-offs released, its due starts applied. -/
def prep (f : Frame) (t : Track) : Track := applyStarts f.q (f.actions.filter f.due) (t.processOffs f.q)
/-- The track one tick later (none: finished and removed, or failed and removed). -/
def trackNext (W : World) (f : Frame) (t : Track) : Option Track := survivor W f.q (prep f t)
/-- Its device calls in the note-off phase of the tick … -/
def trackOffs (f : Frame) (t : Track) : List Call := offCalls (dueOffs f.q t)
/-- … and in the event phase. -/
def trackEvents (W : World) (f : Frame) (t : Track) : List Call := contribution W f.q (prep f t)

/-- The trajectory of one track: a function of the track, the world's streams and the frame only. -/
def alone (W : World) (f : Frame) : Nat → Track → Option Track
  | 0, t => some t
  | n + 1, t => (alone W f n t).bind (trackNext W (f.after n))

/-- `n` consecutive ticks of the timeline. -/
def ticks (W : World) : Nat → TL → TL
  | 0, tl => tl
  | n + 1, tl => (tickTL W (ticks W n tl)).tl

/-- The device calls of a tick in which the tracks `cur` are scheduled, if tracks do not interfere:
    all their note-offs in scheduling order, then all their events in scheduling order. -/
def mergedCalls (W : World) (f : Frame) (cur : List Track) : List Call :=
  (cur.map (trackOffs f)).flatten ++ (cur.map (trackEvents W f)).flatten

/-- The timeline `n` ticks later, if tracks do not interfere: the frame after `n` steps, the survivors of
    the tracks' own trajectories in scheduling order, every setting as it was. -/
def stateAfter (W : World) (tl : TL) (n : Nat) : TL :=
  { tl with now := ((frameOf tl).after n).now, actions := ((frameOf tl).after n).actions,
            tracks := tl.tracks.filterMap (alone W (frameOf tl) n) }

theorem Frame.after_q (f : Frame) (n : Nat) : (f.after n).q = f.q := by
  induction n with
  | zero => rfl
  | succ n ih => exact ih

theorem Frame.after_now (f : Frame) (n : Nat) : (f.after n).now = f.now + n := by
  induction n with
  | zero => rfl
  | succ m ih => exact (congrArg (· + 1) ih)

theorem Frame.after_actions_nil (f : Frame) (hact : f.actions = []) (n : Nat) : (f.after n).actions = [] := by
  induction n with
  | zero => exact hact
  | succ m ih => exact (congrArg (List.filter _) ih).trans List.filter_nil

theorem stateAfter_q (W : World) (tl : TL) (n : Nat) : (stateAfter W tl n).q = tl.q := rfl
theorem stateAfter_tolerant (W : World) (tl : TL) (n : Nat) : (stateAfter W tl n).tolerant = tl.tolerant := rfl
theorem stateAfter_stopWhenDone (W : World) (tl : TL) (n : Nat) : (stateAfter W tl n).stopWhenDone = tl.stopWhenDone := rfl
theorem stateAfter_tracks (W : World) (tl : TL) (n : Nat) :
    (stateAfter W tl n).tracks = tl.tracks.filterMap (alone W (frameOf tl) n) := rfl

theorem frameOf_stateAfter (W : World) (tl : TL) (n : Nat) : frameOf (stateAfter W tl n) = (frameOf tl).after n := by
  show ({ q := tl.q, now := ((frameOf tl).after n).now, actions := ((frameOf tl).after n).actions } : Frame) = _
  rw [← show ((frameOf tl).after n).q = tl.q from Frame.after_q _ n]

theorem prepared_eq (tl : TL) : prepared tl = tl.tracks.map (prep (frameOf tl)) := by
  rw [prepared_pointwise]; rfl

theorem trackNext_id {W : World} {f : Frame} {t u : Track} (h : trackNext W f t = some u) : u.id = t.id := by
  rw [← survivor_eq_some h]
  exact (soloTick_id ..).trans (applyStarts_id ..)

theorem alone_id {W : World} {f : Frame} {n : Nat} {t u : Track} (h : alone W f n t = some u) : u.id = t.id := by
  induction n generalizing u with
  | zero => cases h; rfl
  | succ n ih =>
    obtain ⟨v, hv, hvu⟩ := Option.bind_eq_some_iff.mp h
    exact (trackNext_id hvu).trans (ih hv)

theorem nodup_filterMap_id (f : Track → Option Track) (hf : ∀ t u, f t = some u → u.id = t.id) (ts : List Track)
    (hnd : (ts.map Track.id).Nodup) : ((ts.filterMap f).map Track.id).Nodup := by
  refine hnd.sublist ?_
  clear hnd
  induction ts with
  | nil => exact List.Sublist.slnil
  | cons t ts ih =>
    cases hft : f t with
    | none => rw [List.filterMap_cons, hft]; exact ih.cons _
    | some u => rw [List.filterMap_cons, hft, List.map_cons, List.map_cons, hf t u hft]; exact ih.cons_cons _

/-- **One tick, all of it**: calls and the complete timeline state afterwards (no callbacks, durations
    of at least one unit, unique track identities, stop-when-done off; tolerant mode, or a world without
    faults). -/
theorem tick_is_merge (W : World) (hW : NoActions W) (hP : PosDur W) (tl : TL) (hnd : (tl.tracks.map Track.id).Nodup)
    (hmode : tl.tolerant = true ∨ Faultless W) (hs : tl.stopWhenDone = false) :
    (tickTL W tl).calls = mergedCalls W (frameOf tl) tl.tracks ∧
    (tickTL W tl).res = .ok ∧
    (tickTL W tl).tl = { tl with now := (frameOf tl).next.now, actions := (frameOf tl).next.actions,
                                  tracks := tl.tracks.filterMap (trackNext W (frameOf tl)) } := by
  have hdom : ∀ t ∈ prepared tl, (soloTick W tl.q t).out ≠ .diverged := fun t _ => soloTick_not_diverged W hP tl.q t
  have hmode' : tl.tolerant = true ∨ ∀ t ∈ prepared tl, (soloTick W tl.q t).out = .ok :=
    hmode.imp id fun hF t _ => soloTick_ok hP hF tl.q t
  obtain ⟨n1, _⟩ := non_interference W hW tl hnd hdom hmode'
  obtain ⟨_, m2, m3⟩ := event_phase_is_merge W tl.q tl.tolerant (prepared tl) hdom hmode'
  obtain ⟨r1, r2⟩ := tickTL_frame W hW tl hnd m3 hs
  -- the two `rfl`s: `trackOffs`, `trackEvents` and `trackNext` at `frameOf tl` are by definition the note-offs,
  -- `contribution` and `survivor` of the one-tick theorem at `prep (frameOf tl) t`, and `Frame.next` is the frame
  -- that `tickTL_frame` leaves
  refine ⟨?_, r1, ?_⟩
  · rw [n1, prepared_eq, List.map_map]
    rfl
  · rw [r2, m2, prepared_eq, List.filterMap_map]
    rfl

/-- **Non-interference over whole runs.**  After any number `n` of ticks the timeline's tracks are the
    survivors of the tracks' own trajectories, the rest of the timeline is the frame after `n` steps,
    and the calls of the next tick are the merge of what the tracks do on their own trajectories. -/
theorem run_is_merge (W : World) (hW : NoActions W) (hP : PosDur W) (tl : TL) (hnd : (tl.tracks.map Track.id).Nodup)
    (hmode : tl.tolerant = true ∨ Faultless W) (hs : tl.stopWhenDone = false) (n : Nat) :
    ticks W n tl = stateAfter W tl n ∧
    (tickTL W (ticks W n tl)).calls =
      mergedCalls W ((frameOf tl).after n) (tl.tracks.filterMap (alone W (frameOf tl) n)) ∧
    (tickTL W (ticks W n tl)).res = .ok := by
  -- one tick from the state reached by the tracks' own trajectories
  have step : ∀ n, (tickTL W (stateAfter W tl n)).calls =
        mergedCalls W ((frameOf tl).after n) (tl.tracks.filterMap (alone W (frameOf tl) n)) ∧
      (tickTL W (stateAfter W tl n)).res = .ok ∧ (tickTL W (stateAfter W tl n)).tl = stateAfter W tl (n + 1) := by
    intro n
    obtain ⟨t1, t2, t3⟩ := tick_is_merge W hW hP (stateAfter W tl n)
      (nodup_filterMap_id _ (fun _ _ => alone_id) tl.tracks hnd) hmode hs
    rw [frameOf_stateAfter] at t1 t3
    refine ⟨t1, t2, t3.trans ?_⟩
    rw [stateAfter_tracks, List.filterMap_filterMap]
    rfl
  have key : ticks W n tl = stateAfter W tl n := by
    induction n with
    | zero => exact (congrArg (fun ts => { tl with tracks := ts }) (List.filterMap_some (l := tl.tracks))).symm
    | succ n ih => rw [ticks, ih]; exact (step n).2.2
  rw [key]
  exact ⟨rfl, (step n).1, (step n).2.1⟩

/-- `run_is_merge` for `tl` holding the tracks `ts` instead of its own: frame and trajectories are the same whichever
    tracks are scheduled, which is what lets runs with and without a track be compared. -/
theorem run_with_tracks (W : World) (hW : NoActions W) (hP : PosDur W) (tl : TL) (ts : List Track)
    (hnd : (ts.map Track.id).Nodup) (hmode : tl.tolerant = true ∨ Faultless W) (hs : tl.stopWhenDone = false) (n : Nat) :
    (ticks W n { tl with tracks := ts }).tracks = ts.filterMap (alone W (frameOf tl) n) ∧
    (tickTL W (ticks W n { tl with tracks := ts })).calls =
      mergedCalls W ((frameOf tl).after n) (ts.filterMap (alone W (frameOf tl) n)) ∧
    (tickTL W (ticks W n { tl with tracks := ts })).res = .ok :=
  have ⟨r1, r2, r3⟩ := run_is_merge W hW hP { tl with tracks := ts } hnd hmode hs n
  ⟨congrArg TL.tracks r1, r2, r3⟩

/-- **What a track produces alone**: in the timeline that holds only the track `t` (same time, same
    pending starts, same settings), the track after `n` ticks is `alone … n t` and the calls of the next
    tick are its own note-offs followed by its own events — the very lists that `run_is_merge`
    concatenates for the multi-track timeline. -/
theorem alone_is_the_solo_timeline (W : World) (hW : NoActions W) (hP : PosDur W) (tl : TL) (t : Track)
    (hmode : tl.tolerant = true ∨ Faultless W) (hs : tl.stopWhenDone = false) (n : Nat) :
    (ticks W n { tl with tracks := [t] }).tracks = (alone W (frameOf tl) n t).toList ∧
    (tickTL W (ticks W n { tl with tracks := [t] })).calls =
      mergedCalls W ((frameOf tl).after n) (alone W (frameOf tl) n t).toList := by
  have ⟨r1, r2, _⟩ := run_with_tracks W hW hP tl [t] (by simp) hmode hs n
  rw [filterMap_cons_toList, List.filterMap_nil, List.append_nil] at r1 r2
  exact ⟨r1, r2⟩

/-- The merge is a concatenation over the tracks: in each of the two phases, the tracks' own calls in
    scheduling order. -/
theorem mergedCalls_append (W : World) (f : Frame) (a b : List Track) :
    mergedCalls W f (a ++ b) =
      (a.map (trackOffs f)).flatten ++ (b.map (trackOffs f)).flatten ++
      ((a.map (trackEvents W f)).flatten ++ (b.map (trackEvents W f)).flatten) := by
  simp [mergedCalls]

/-- **Fault isolation over whole runs** (C17): in tolerant mode, for any track `bad` (however and
    whenever it fails) scheduled between the tracks `ts1` and `ts2`, after any number of ticks the other
    tracks are in exactly the states they are in without `bad`, and the calls of the next tick are those
    of the run without `bad` with `bad`'s own calls inserted at its place in each phase. -/
theorem fault_isolated_run (W : World) (hW : NoActions W) (hP : PosDur W) (tl : TL) (ts1 ts2 : List Track) (bad : Track)
    (hnd : ((ts1 ++ bad :: ts2).map Track.id).Nodup) (htol : tl.tolerant = true) (hs : tl.stopWhenDone = false) (n : Nat) :
    (ticks W n { tl with tracks := ts1 ++ bad :: ts2 }).tracks =
      ts1.filterMap (alone W (frameOf tl) n) ++ (alone W (frameOf tl) n bad).toList ++ ts2.filterMap (alone W (frameOf tl) n) ∧
    (ticks W n { tl with tracks := ts1 ++ ts2 }).tracks =
      ts1.filterMap (alone W (frameOf tl) n) ++ ts2.filterMap (alone W (frameOf tl) n) ∧
    (tickTL W (ticks W n { tl with tracks := ts1 ++ bad :: ts2 })).calls =
      ((ts1.filterMap (alone W (frameOf tl) n)).map (trackOffs ((frameOf tl).after n))).flatten ++
      (((alone W (frameOf tl) n bad).toList).map (trackOffs ((frameOf tl).after n))).flatten ++
      ((ts2.filterMap (alone W (frameOf tl) n)).map (trackOffs ((frameOf tl).after n))).flatten ++
      (((ts1.filterMap (alone W (frameOf tl) n)).map (trackEvents W ((frameOf tl).after n))).flatten ++
       (((alone W (frameOf tl) n bad).toList).map (trackEvents W ((frameOf tl).after n))).flatten ++
       ((ts2.filterMap (alone W (frameOf tl) n)).map (trackEvents W ((frameOf tl).after n))).flatten) ∧
    (tickTL W (ticks W n { tl with tracks := ts1 ++ ts2 })).calls =
      ((ts1.filterMap (alone W (frameOf tl) n)).map (trackOffs ((frameOf tl).after n))).flatten ++
      ((ts2.filterMap (alone W (frameOf tl) n)).map (trackOffs ((frameOf tl).after n))).flatten ++
      (((ts1.filterMap (alone W (frameOf tl) n)).map (trackEvents W ((frameOf tl).after n))).flatten ++
       ((ts2.filterMap (alone W (frameOf tl) n)).map (trackEvents W ((frameOf tl).after n))).flatten) := by
  have hnd' : ((ts1 ++ ts2).map Track.id).Nodup :=
    hnd.sublist (((List.sublist_cons_self bad ts2).append_left ts1).map _)
  have ⟨a1, a2, _⟩ := run_with_tracks W hW hP tl (ts1 ++ bad :: ts2) hnd (Or.inl htol) hs n
  have ⟨b1, b2, _⟩ := run_with_tracks W hW hP tl (ts1 ++ ts2) hnd' (Or.inl htol) hs n
  rw [List.filterMap_append, filterMap_cons_toList, ← List.append_assoc] at a1 a2
  rw [List.filterMap_append] at b1 b2
  refine ⟨a1, b1, ?_, ?_⟩
  · rw [a2, mergedCalls_append, List.map_append, List.map_append, List.flatten_append, List.flatten_append]
  · rw [b2, mergedCalls_append]

/-! Non-vacuity: a concrete two-track world meeting every hypothesis, run for three ticks. -/

def exW : World := fun sid pos =>
  if sid = 0 then (if pos < 3 then some (.ev 2 true (.note [{ note := 60 + pos, amp := 64, len := 1, gpos := true, chan := 0 }])) else none)
  else (if pos < 2 then some (.ev 3 true (.control 7 (10 + pos) 0 false)) else none)

theorem exW_some {sid pos : Nat} {it : Item} (h : exW sid pos = some it) :
    (∃ n, it = .ev 2 true (.note [{ note := n, amp := 64, len := 1, gpos := true, chan := 0 }])) ∨
    ∃ v, it = .ev 3 true (.control 7 v 0 false) := by
  unfold exW at h
  by_cases h0 : sid = 0
  · by_cases h1 : pos < 3
    · rw [if_pos h0, if_pos h1] at h; exact Or.inl ⟨_, (Option.some.inj h).symm⟩
    · rw [if_pos h0, if_neg h1] at h; cases h
  · by_cases h1 : pos < 2
    · rw [if_neg h0, if_pos h1] at h; exact Or.inr ⟨_, (Option.some.inj h).symm⟩
    · rw [if_neg h0, if_neg h1] at h; cases h

theorem exW_noActions : NoActions exW := by
  intro sid pos d a ops out h
  rcases exW_some h with ⟨_, e⟩ | ⟨_, e⟩ <;> cases e

theorem exW_posDur : PosDur exW := by
  intro sid pos d a k h
  rcases exW_some h with ⟨_, e⟩ | ⟨_, e⟩ <;> cases e <;> decide

theorem exW_faultless : Faultless exW := by
  refine ⟨?_, ?_, ?_, ?_, ?_⟩
  · intro sid pos h
    rcases exW_some h with ⟨_, e⟩ | ⟨_, e⟩ <;> cases e
  · intro sid pos h
    rcases exW_some h with ⟨_, e⟩ | ⟨_, e⟩ <;> cases e
  · intro sid pos d a vs h v hv
    rcases exW_some h with ⟨_, e⟩ | ⟨_, e⟩ <;> cases e
    rw [List.mem_singleton.mp hv]
  · intro sid pos d a cc v ch h
    rcases exW_some h with ⟨_, e⟩ | ⟨_, e⟩ <;> cases e
  · intro sid pos d a p ch h
    rcases exW_some h with ⟨_, e⟩ | ⟨_, e⟩ <;> cases e

def exTL : TL :=
  { q := 1, tracks := [{ (newTrack 0 none 0 true) with started := true, sid := 0 },
                       { (newTrack 1 none 0 true) with started := true, sid := 1 }] }

example : ((exTL.tracks.map Track.id).Nodup) ∧ exTL.stopWhenDone = false := by decide
example : (tickTL exW (ticks exW 3 exTL)).calls = [Call.noteOff 61 0, Call.control 7 11 0] := by decide +kernel
example : (tickTL exW (ticks exW 3 exTL)).calls = mergedCalls exW ((frameOf exTL).after 3) (exTL.tracks.filterMap (alone exW (frameOf exTL) 3)) :=
  (run_is_merge exW exW_noActions exW_posDur exTL (by decide) (Or.inr exW_faultless) rfl 3).2.1

end IsobarV.C07
