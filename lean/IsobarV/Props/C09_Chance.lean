/-
C09 for the stochastic classes: stickiness of StopIteration.

A class of the form `stepPure idx core` whose `core` never itself signals StopIteration (PBrown, PCoin,
PRandomWalk, PChoice, PSample, PSkip, PFlipFlop, PRandomExponential) ends only when one of its
pattern-valued attributes ends, and then stays ended: that attribute is polled again at every later
call.  PWhite(length) / PShuffle(repeats) end by their own counters, which only grow: see
`IsobarV.C11.white_length_exact` (stop for ever, constant length).  PMarkov ends at a dead end and stays
there (`markov_sticky`).
-/
import IsobarV.Props.C09
import IsobarV.Pat.Cls.ChanceLemmas

namespace IsobarV.C09
open IsobarV.Pat

theorem resolve_P {P : Pat → Prop} {rec : Rec} (hrec : RecSticky P rec) (idx : List Nat) (kids : List Pat)
    (hk : ∀ k ∈ kids, P k) : ∀ k ∈ (resolve rec idx kids).kids, P k :=
  (resolve_stepped rec idx kids).sticky hrec hk

theorem resolve_stop_dead {P : Pat → Prop} {rec : Rec} (hrec : RecSticky P rec) (idx : List Nat) (kids : List Pat)
    (hk : ∀ k ∈ kids, P k) (hs : (resolve rec idx kids).bad = some .stop) :
    ∃ j ∈ idx, DeadAt rec (resolve rec idx kids).kids j := by
  induction idx generalizing kids with
  | nil => cases hs
  | cons i is ih =>
    simp only [resolve] at hs ⊢
    split at hs
    · obtain ⟨j, hj, hd⟩ := ih _ (stepKid_P hrec kids i hk) hs
      exact ⟨j, List.mem_cons_of_mem _ hj, hd⟩
    · exact ⟨i, List.mem_cons_self, stepKid_stop_dead hrec hk (Option.some.inj hs)⟩

theorem resolve_dead {rec : Rec} (idx : List Nat) (kids : List Pat) (h : ∃ j ∈ idx, DeadAt rec kids j) :
    (∃ o, (resolve rec idx kids).bad = some o ∧ NoVal o) ∧ ∃ j ∈ idx, DeadAt rec (resolve rec idx kids).kids j := by
  induction idx generalizing kids with
  | nil => obtain ⟨j, hj, _⟩ := h; cases hj
  | cons i is ih =>
    obtain ⟨j, hj, hd⟩ := h
    simp only [resolve]
    split
    · rename_i v hv
      have hji : j ≠ i := fun e => (e ▸ hd).step.1 v hv
      obtain ⟨h1, j', hj', hd'⟩ := ih _ ⟨j, (List.mem_cons.mp hj).resolve_left hji, hd.other hji.symm⟩
      exact ⟨h1, j', List.mem_cons_of_mem _ hj', hd'⟩
    · rename_i o ho
      refine ⟨⟨_, rfl, ho⟩, j, hj, ?_⟩
      by_cases hji : j = i
      · subst hji; exact hd.step.2
      · exact hd.other (Ne.symm hji)

theorem pure_sticky (c : Cls) (idx : List Nat) (core : List Val → St → Out × St) (hc : clsStep c = stepPure idx core)
    (hcore : ∀ vals st, (core vals st).1 ≠ .stop) : ClsSticky c := by
  intro P rec kids st hrec hk
  rw [hc]
  refine ⟨(stepPure_stepped idx core rec kids st).1.sticky hrec hk, fun hs => ?_⟩
  have hbad : (resolve rec idx kids).bad = some .stop := by
    simp only [stepPure] at hs
    split at hs
    · rename_i o ho; exact ho.trans (congrArg some hs)
    · exact absurd hs (hcore _ _)
  obtain ⟨j, hj, hd⟩ := stepPure_kids idx core rec kids st ▸ resolve_stop_dead hrec idx kids hk hbad
  -- kid `j` is dead and stays so: `resolve` fails at it or before it at every later step
  refine clsOuts_dead (fun kids st => (stepPure_stepped idx core rec kids st).1) (fun kids st h => ?_) hd
  obtain ⟨⟨o, ho, hno⟩, -⟩ := resolve_dead idx kids ⟨j, hj, h⟩
  simp only [stepPure, ho]
  exact hno

theorem brownCore_ne_stop (vals : List Val) (st : St) : (brownCore vals st).1 ≠ .stop := (brownCore_quiet vals st).1

theorem coinCore_ne_stop (vals : List Val) (st : St) : (coinCore vals st).1 ≠ .stop := (coinCore_quiet vals st).1

theorem walkCore_ne_stop (vals : List Val) (st : St) : (walkCore vals st).1 ≠ .stop := (walkCore_quiet vals st).1

theorem choiceCore_ne_stop (vals : List Val) (st : St) : (choiceCore vals st).1 ≠ .stop := (choiceCore_quiet vals st).1

theorem sampleCore_ne_stop (vals : List Val) (st : St) : (sampleCore vals st).1 ≠ .stop := (sampleCore_quiet vals st).1

theorem skipCore_ne_stop (vals : List Val) (st : St) : (skipCore vals st).1 ≠ .stop := (skipCore_quiet vals st).1

theorem flipFlopCore_ne_stop (vals : List Val) (st : St) : (flipFlopCore vals st).1 ≠ .stop := (flipFlopCore_quiet vals st).1

theorem expCore_ne_stop (vals : List Val) (st : St) : (expCore vals st).1 ≠ .stop := (expCore_quiet vals st).1

/-- Stochastic classes that end only with their inputs / parameters. -/
def StickyChance (c : Cls) : Prop :=
  c = .brown ∨ c = .coin ∨ c = .randomWalk ∨ c = .choice ∨ c = .sample ∨ c = .skip ∨ c = .flipFlop ∨ c = .randomExponential

theorem chance_sticky (c : Cls) (h : StickyChance c) : ClsSticky c := by
  rcases h with rfl | rfl | rfl | rfl | rfl | rfl | rfl | rfl
  · exact pure_sticky _ _ _ rfl brownCore_ne_stop
  · exact pure_sticky _ _ _ rfl coinCore_ne_stop
  · exact pure_sticky _ _ _ rfl walkCore_ne_stop
  · exact pure_sticky _ _ _ rfl choiceCore_ne_stop
  · exact pure_sticky _ _ _ rfl sampleCore_ne_stop
  · exact pure_sticky _ _ _ rfl skipCore_ne_stop
  · exact pure_sticky _ _ _ rfl flipFlopCore_ne_stop
  · exact pure_sticky _ _ _ rfl expCore_ne_stop

def StickyCoreOrChance (c : Cls) : Prop := StickyCore c ∨ StickyChance c

/-- **C09 stickiness with stochastic classes in the tree**: e.g. `PSkip(PSequence(…, 1), 0.5)`, a
    `PChoice` whose `values` pattern is finite, a sum of a finite sequence and a `PBrown` …: once
    `next()` has raised StopIteration no later `next()` yields a value. -/
theorem sticky_chance (fuel : Nat) (p : Pat) (hp : AllCls StickyCoreOrChance p) (hstop : (stepF fuel p).out = .stop) :
    ∀ n, ∀ o ∈ outs fuel n (stepF fuel p).p, NoVal o :=
  (sticky_stepF (fun c h => h.elim (core_sticky c) (chance_sticky c)) fuel p hp).2 hstop

/-- A dead end stores the node and is a dead end again. -/
theorem markovMove_stop {node : Val} {s s' : St} (h : markovMove node s = (.stop, s')) :
    s' = { s with v0 := node } ∧ markovMove node s' = (.stop, s') := by
  revert h
  fun_cases markovMove node s <;> rintro ⟨⟩
  exact ⟨rfl, if_pos ‹_›⟩

/-- **A Markov chain that has reached a dead end stays there** (chains whose nodes are not `None`): the
    step that raised StopIteration leaves a state on which every later step raises it again. -/
theorem markov_sticky (vals vals' : List Val) (st st' : St) (hn : Val.none ∉ st.buf)
    (h : markovCore vals st = (.stop, st')) : markovCore vals' st' = (.stop, st') := by
  revert h
  fun_cases markovCore vals st <;> intro h
  case case1 x hx =>
    obtain ⟨rfl, e⟩ := markovMove_stop h
    exact (if_neg fun hc : x = Val.none ∧ _ => hn (hc.1 ▸ List.mem_of_getElem? hx)).trans e
  case case4 hc =>
    obtain ⟨rfl, e⟩ := markovMove_stop h
    exact (if_neg hc).trans e
  all_goals cases h

section Example
def exSkip : Pat :=
  .node .skip [.node .seq [Pat.const (.int 1), Pat.const (.int 2)] { n0 := 1 }, Pat.const (.flt (1/2))]
    { v0 := .flt 0, tape := [.u (1/4), .u (3/4), .u (1/4), .u (1/4)] }
example : outs 5 5 exSkip = [.val (.int 1), .val Val.none, .stop, .stop, .stop] := by decide +kernel
end Example

end IsobarV.C09
