/-
C12 — pattern-valued parameters are resolved afresh at every step: the ext2 group.

`PFilterByKey.key`, `PNearestNoteInKey.key` (and their `pattern`), `PKeyTonic.key`, `PKeyScale.key`, `PFunc.function`:
one `rec`-step per step that yields.  `PSequenceAction.repeats` is resolved exactly when the inner sequence ends — not
while it yields — and exactly once then.
-/
import IsobarV.Pat.Cls.Ext2Lemmas
import IsobarV.Props.C12_Scalar

namespace IsobarV.C12Ext2
open IsobarV.Pat

/-- `PFilterByKey.pattern` (index 0) and `PFilterByKey.key` (index 1). -/
theorem filterByKey_params_once (rec : Rec) (kids : List Pat) (st : St) (v : Val)
    (h : (stepFilterByKey rec kids st).out = .val v) (i : Nat) (hi : i < 2) (k : Pat) (hk : kids[i]? = some k) :
    (stepFilterByKey rec kids st).kids[i]? = some (rec k).p :=
  C12.inOrder_once 2 _ rec kids st v h i hi k hk

/-- `PNearestNoteInKey.pattern` (index 0) and `PNearestNoteInKey.key` (index 1). -/
theorem nearestNoteInKey_params_once (rec : Rec) (kids : List Pat) (st : St) (v : Val)
    (h : (stepNearestNoteInKey rec kids st).out = .val v) (i : Nat) (hi : i < 2) (k : Pat) (hk : kids[i]? = some k) :
    (stepNearestNoteInKey rec kids st).kids[i]? = some (rec k).p :=
  C12.inOrder_once 2 _ rec kids st v h i hi k hk

/-- `PKeyTonic.key`. -/
theorem keyTonic_key_once (rec : Rec) (kids : List Pat) (st : St) (v : Val)
    (h : (stepKeyTonic rec kids st).out = .val v) (k : Pat) (hk : kids[0]? = some k) :
    (stepKeyTonic rec kids st).kids[0]? = some (rec k).p :=
  C12.inOrder_once 1 _ rec kids st v h 0 Nat.one_pos k hk

/-- `PKeyScale.key`. -/
theorem keyScale_key_once (rec : Rec) (kids : List Pat) (st : St) (v : Val)
    (h : (stepKeyScale rec kids st).out = .val v) (k : Pat) (hk : kids[0]? = some k) :
    (stepKeyScale rec kids st).kids[0]? = some (rec k).p :=
  C12.inOrder_once 1 _ rec kids st v h 0 Nat.one_pos k hk

/-- `PFunc.function`. -/
theorem func_function_once (rec : Rec) (kids : List Pat) (st : St) (v : Val)
    (h : (stepFunc rec kids st).out = .val v) (k : Pat) (hk : kids[0]? = some k) :
    (stepFunc rec kids st).kids[0]? = some (rec k).p :=
  C12.inOrder_once 1 _ rec kids st v h 0 Nat.one_pos k hk

/-- **`PSequenceAction.repeats` is not touched while the inner sequence yields**: such a step is the step of the
    inner sequence, and `repeats` (kid 0) is the same object afterwards. -/
theorem sequenceAction_repeats_untouched_within_pass (rs : Pat → Pat) (rec : Rec) (fuel : Nat) (kids : List Pat) (st : St)
    (v : Val) (h : (saInner rec kids st).out = .val v) :
    saLoop rs rec (fuel + 1) kids st = saInner rec kids st ∧ (saInner rec kids st).kids[0]? = kids[0]? := by
  constructor
  · simp only [saLoop, h]
  · rcases (saInner_spec rec kids st).1 with e | ⟨j, e⟩
    · rw [e]
    · rw [e]; exact stepKid_ne rec kids (Nat.succ_ne_zero j)

/-- **… and is resolved exactly once when the inner sequence has ended**: here with a value that ends the pattern
    (`repeat_counter >= repeats`). -/
theorem sequenceAction_repeats_once_at_end (rs : Pat → Pat) (rec : Rec) (fuel : Nat) (kids : List Pat) (st : St)
    (hi : (saInner rec kids st).out = .stop) (k0 : Pat) (hk : (saInner rec kids st).kids[0]? = some k0) (rv : Val)
    (hr : (rec k0).out = .val rv) (hd : saDone ((saInner rec kids st).st.n1 + 1) rv = some true) :
    (saLoop rs rec (fuel + 1) kids st).out = .stop ∧ (saLoop rs rec (fuel + 1) kids st).kids[0]? = some (rec k0).p := by
  simp only [saLoop, hi, stepKid_get rec _ 0 k0 hk, hr, hd]
  exact ⟨trivial, List.getElem?_set_self (List.getElem?_eq_some_iff.mp hk).1⟩

/-! Non-vacuity: rotate `[1, 2]` with `repeats` taken from the stream 5, 5, 2: the stream is read once per pass end
    (the last read, 5 again, exceeds the counter 4: the pattern resumes — the selector behaviour noted in C09_Ext2). -/
section Example
def c (i : Int) : Pat := Pat.const (.int i)
def exR : Pat := .node .sequenceAction [.node .seq [c 5, c 5, c 2] { n0 := -1 }, c 1, c 2] { n0 := 2 }
example : outs 10 8 exR = [.val (.int 1), .val (.int 2), .val (.int 2), .val (.int 1), .val (.int 1), .val (.int 2), .stop, .val (.int 2)] := by
  decide +kernel
example : (saInner (stepF 5) exR.kids exR.st).out = .val (.int 1) := by decide +kernel
example : (stepFilterByKey (stepF 5) [c 3, Pat.const (.tup [.int 0, .str "major"])] {}).out = .val Val.none := by decide +kernel
end Example

end IsobarV.C12Ext2
