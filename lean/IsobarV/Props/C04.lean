/-
C04 — `reset()` rewinds any pattern to its initial state.

`IsobarV/Pat/ResetOK.lean` proves the general theorem (`reset_rewinds`, `reset_twice`, `all_rewinds`)
for pattern trees of ANY shape and depth built from reset-correct classes.  This file proves
reset-correctness class by class (core classes here; further classes register their lemma in
`IsobarV/Props/C04_*.lean`) and instantiates the theorem.
-/
import IsobarV.Pat.ResetOK

namespace IsobarV.C04
open IsobarV.Pat

theorem const_ok : ClsResetOK .const := .of_stepped fun _ _ _ => ⟨.refl, rfl⟩

theorem ref_ok : ClsResetOK .ref := .of_stepped fun _ _ _ => ⟨Stepped.refl.step 0, rfl⟩

/-- One-input maps keep no state of their own. -/
theorem un_ok (f : Val → Out) (c : Cls) (hc : clsStep c = stepUn f) : ClsResetOK c :=
  .of_stepped fun rec kids st => by
    rw [hc, (stepUn_stepped f rec kids st).2]; exact ⟨(stepUn_stepped f rec kids st).1, rfl⟩

/-- Binary operators keep no state of their own; they step `a`, then `b`. -/
theorem bin_ok (f : Val → Val → Out) (c : Cls) (hc : clsStep c = stepBin f) : ClsResetOK c :=
  .of_stepped fun rec kids st => by
    rw [hc, (stepBin_stepped f rec kids st).2]; exact ⟨(stepBin_stepped f rec kids st).1, rfl⟩

/-- `PSequence.reset()` sets `pos` and `rcount` back to 0 whatever they were. -/
theorem seq_ok : ClsResetOK .seq := .of_step stepSeq_stepped

theorem concat_ok : ClsResetOK .concat := .of_stepped fun rec kids _ => ⟨concatLoop_stepped rec _ kids _, rfl⟩

theorem arrayIndex_ok : ClsResetOK .arrayIndex := .of_step (r := id) stepArrayIndex_stepped

/-- The classes of `core.py` (and `PSequence`) proved reset-correct. -/
def CoreCls (c : Cls) : Prop :=
  c = .const ∨ c = .ref ∨ c = .seq ∨ c = .concat ∨ c = .abs ∨ c = .int ∨ c = .arrayIndex ∨
  c = .add ∨ c = .sub ∨ c = .mul ∨ c = .div ∨ c = .floorDiv ∨ c = .mod ∨ c = .pow ∨ c = .lshift ∨ c = .rshift ∨
  c = .eq ∨ c = .ne ∨ c = .gt ∨ c = .ge ∨ c = .lt ∨ c = .le ∨ c = .and

theorem core_ok (c : Cls) (h : CoreCls c) : ClsResetOK c := by
  unfold CoreCls at h
  rcases h with h | h | h | h | h | h | h | h | h | h | h | h | h | h | h | h | h | h | h | h | h | h | h <;> subst h
  · exact const_ok
  · exact ref_ok
  · exact seq_ok
  · exact concat_ok
  · exact un_ok absVal _ rfl
  · exact un_ok intVal _ rfl
  · exact arrayIndex_ok
  all_goals exact bin_ok _ _ rfl

/-- **C04 for the core classes**: any expression built from constants, sequences (with nested
    sequences as items), references, concatenations, `abs`, `int`, array lookups and all arithmetic /
    comparison operators, nested to any depth, is rewound by `reset()` after any number of steps. -/
theorem reset_rewinds_core (fuel k : Nat) (p0 : Pat) (hp : AllCls CoreCls p0) (h0 : IsInit p0) :
    reset (after fuel k p0) = p0 :=
  reset_rewinds core_ok fuel k p0 hp h0

theorem all_rewinds_core (fuel maximum : Nat) (p0 : Pat) (hp : AllCls CoreCls p0) (h0 : IsInit p0)
    (hok : (nextn fuel maximum p0).err = Option.none) : (all fuel maximum p0).p = p0 :=
  all_rewinds core_ok fuel maximum p0 hp h0 hok

/-! Non-vacuity: a nested expression, consumed to exhaustion, then reset. -/
section Example
def sq (xs : List Pat) (rep : Int) : Pat := .node .seq xs { n0 := rep }
def c (i : Int) : Pat := Pat.const (.int i)
def ex : Pat := .node .add [sq [c 1, sq [c 7, c 8] 1, c 3] 2, .node .concat [sq [c 10] 1, sq [c 20, c 30] 2] {}] {}
example : IsInit ex := by unfold IsInit; rfl
example : reset (after 10 7 ex) = ex := by rfl
example : outs 10 3 (after 10 7 ex) = [.stop, .stop, .stop] ∧
    outs 10 3 (reset (after 10 7 ex)) = [.val (.int 11), .val (.int 27), .val (.int 33)] := by decide
example : AllCls CoreCls ex := by simp [ex, sq, c, Pat.const, allCls_node, CoreCls]
end Example

end IsobarV.C04
