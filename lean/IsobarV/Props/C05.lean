/-
C05 — quantize and delay start tracks on the requested grid; updates switch cleanly.

About `Timeline._schedule_action` (`schedTime`), `Track.update` (`updateCore`), `Track.start`,
the action phase of `Timeline.tick` (`fireActions`) in the scheduler model; for every call time, every
quantize `qz ≥ 0`, delay `dl ≥ 0` (units), every tick resolution.
-/
import IsobarV.Sched.Solo

namespace IsobarV.C05
open IsobarV.Sched

/-- `quantize = 0`: the start time is the call time plus the delay. -/
theorem schedTime_unquantized (q now dl : Nat) : schedTime q now 0 dl = now * q + dl := by
  simp [schedTime]

/-- **The quantized start time is the first grid point at or after the call time, plus the delay**:
    `G = schedTime − dl` is a multiple of `qz`, `t ≤ G < t + qz`. -/
theorem schedTime_spec (q now qz dl : Nat) (hqz : 0 < qz) :
    ∃ G, schedTime q now qz dl = G + dl ∧ qz ∣ G ∧ now * q ≤ G ∧ G < now * q + qz := by
  obtain ⟨h1, h2⟩ := C02.cdiv_spec qz (now * q) hqz
  refine ⟨cdiv (now * q) qz * qz, by rw [schedTime, if_neg (Nat.ne_of_gt hqz), Nat.mul_comm], Nat.dvd_mul_left _ _, h1, ?_⟩
  generalize now * q = T, cdiv (now * q) qz = c at h2 ⊢
  cases c with
  | zero => rw [Nat.zero_mul]; exact Nat.lt_add_left _ hqz
  | succ c => rw [Nat.succ_mul]; exact Nat.add_lt_add_right (h2 c (Nat.lt_succ_self c)) qz

/-- **A call time already on the grid counts as quantized.** -/
theorem schedTime_on_grid (q now qz dl : Nat) (hqz : 0 < qz) (hgrid : qz ∣ now * q) :
    schedTime q now qz dl = now * q + dl := by
  obtain ⟨G, h1, hG, h3, h4⟩ := schedTime_spec q now qz dl hqz
  -- `G - now·q` is a multiple of `qz` below `qz`
  have h0 := Nat.eq_zero_of_dvd_of_lt (Nat.dvd_sub hG hgrid) (Nat.sub_lt_left_of_lt_add h3 h4)
  rw [h1, Nat.le_antisymm (Nat.le_of_sub_eq_zero h0) h3]

/-- By definition of `PAct.due`: a queued start with time `T` is due at tick `n` iff `T ≤ n·q` … -/
theorem start_fires_at (tl : TL) (a : PAct) : PAct.due tl a = true ↔ a.time ≤ tl.now * tl.q := by
  simp [PAct.due]

/-- … so **the start fires on the first tick at or after the scheduled time**: at tick `⌈T / q⌉` and at no
    earlier tick. -/
theorem first_fire_tick (q T n : Nat) (hq : 0 < q) :
    (T ≤ n * q ∧ ∀ n', n' < n → ¬ T ≤ n' * q) ↔ n = cdiv T q := C02.first_due_tick q T n hq

/-- **Explicit arguments override the timeline defaults, device latency is added to the delay; an
    update with quantize = delay = 0 switches at once, any other update leaves the track playing its
    old stream untouched and queues exactly one start for the computed time.**  By definition of
    `updateCore`, written out. -/
theorem update_semantics (tl : TL) (t : Track) (sid : Nat) (qz dl count : Option Nat) :
    updateCore tl t sid qz dl count =
      (if qz.getD tl.defQz = 0 ∧ dl.getD tl.defDl + tl.latency = 0 then
        { t := Track.start tl.q (match count with | some c => { t with maxCount := c } | none => t) sid, act := none }
      else
        { t := (match count with | some c => { t with maxCount := c } | none => t),
          act := some { time := schedTime tl.q tl.now (qz.getD tl.defQz) (dl.getD tl.defDl + tl.latency),
                        tid := t.id, sid := sid } }) := by
  unfold updateCore; rfl

/-- `Track.start` switches to the new stream from its beginning, makes its first event due at the
    current local time, and leaves sounding notes (pending note-offs) alone (by definition of `Track.start`). -/
theorem start_semantics (q : Nat) (t : Track) (sid : Nat) :
    (t.start q sid).sid = sid ∧ (t.start q sid).pos = 0 ∧ (t.start q sid).nxt = ((t.cur * q : Nat) : Int) ∧
    (t.start q sid).started = true ∧ (t.start q sid).offs = t.offs ∧ (t.start q sid).cur = t.cur := by
  simp [Track.start]

theorem find_fireOne {tl : TL} {a : PAct} {t : Track} (hf : tl.find a.tid = some t) :
    (fireOne tl a).find a.tid = some (t.start tl.q a.sid) := by
  have hid : (t.start tl.q a.sid).id = a.tid := findTrack_id (u := t) hf
  rw [fireOne, hf, ← hid]
  exact find_setTrack (hid ▸ hf)

/-- **When several starts for one track are due in the same tick, the one requested last wins.** -/
theorem last_update_wins (tl : TL) (a b : PAct) (t : Track) (hf : tl.find a.tid = some t) (hab : b.tid = a.tid) :
    ∃ t', (fireOne (fireOne tl a) b).find a.tid = some t' ∧ t'.sid = b.sid ∧ t'.pos = 0 ∧ t'.offs = t.offs := by
  have h1 := find_fireOne hf
  rw [← hab] at h1 ⊢
  exact ⟨_, find_fireOne h1, rfl, rfl, rfl⟩

/-- The starts that are due fire in request order and exactly the not-yet-due ones stay queued. -/
theorem fireActions_queue (tl : TL) :
    (fireActions tl).actions = tl.actions.filter (fun a => ! PAct.due tl a) ∧
    (fireActions tl).tracks = ((tl.actions.filter (PAct.due tl)).foldl fireOne tl).tracks := by
  simp [fireActions]

/-! ### Old stream until the switch tick, new stream from it

With unique track identities the action phase is computed track by track (`foldl_fireOne_tracks`):
a track is touched only by the due starts addressed to it. -/

theorem applyStarts_none (q : Nat) (as : List PAct) (t : Track) (h : ∀ a ∈ as, a.tid ≠ t.id) :
    applyStarts q as t = t := by
  induction as with
  | nil => rfl
  | cons a as ih =>
    rw [List.forall_mem_cons] at h
    rw [applyStarts, List.foldl_cons, startIf, if_neg (Ne.symm h.1)]
    exact ih h.2

/-- **Until its start is due an updated track keeps playing its old stream**, tick by tick: in a tick in which
    no start addressed to the track is due, the action phase leaves the track exactly as it was (same
    stream, same position, same next-event time). -/
theorem keeps_old_stream_until_due (tl : TL) (hnd : (tl.tracks.map Track.id).Nodup) (t : Track) (ht : t ∈ tl.tracks)
    (hnot : ∀ a ∈ tl.actions, a.tid = t.id → PAct.due tl a = false) :
    t ∈ (fireActions tl).tracks := by
  have h : (fireActions tl).tracks = tl.tracks.map (applyStarts tl.q (tl.actions.filter (PAct.due tl))) :=
    (foldl_fireOne_tracks _ tl hnd).1
  rw [h]
  refine List.mem_map.mpr ⟨t, ht, applyStarts_none _ _ _ fun a ha heq => ?_⟩
  rw [List.mem_filter] at ha
  exact Bool.false_ne_true ((hnot a ha.1 heq).symm.trans ha.2)

/-- **From the tick at which its start is due, only the new stream**, in terms of what the action phase does to
    one track (`applyStarts`, see `foldl_fireOne_tracks`): if the due starts applied to the track end with `a`
    (the one requested last), they leave it on `a`'s stream, at its beginning, first event due at once,
    sounding notes untouched. -/
theorem applyStarts_last (q : Nat) (as : List PAct) (a : PAct) (t : Track) (ha : a.tid = t.id) :
    (applyStarts q (as ++ [a]) t).sid = a.sid ∧ (applyStarts q (as ++ [a]) t).pos = 0 ∧
    (applyStarts q (as ++ [a]) t).started = true ∧ (applyStarts q (as ++ [a]) t).offs = t.offs ∧
    (applyStarts q (as ++ [a]) t).nxt = ((t.cur * q : Nat) : Int) := by
  obtain ⟨s, p, b, n, h⟩ := applyStarts_frame q as t
  have hlast : applyStarts q (as ++ [a]) t = (applyStarts q as t).start q a.sid := by
    rw [applyStarts, List.foldl_append]
    exact if_pos (by rw [← applyStarts, h]; exact ha.symm)
  rw [hlast, h]
  exact ⟨rfl, rfl, rfl, rfl, rfl⟩

/-! ### Calls made from inside action callbacks

A callback runs in the event phase of a tick: it sees the timeline as it is at that moment — the time of
the tick in progress (`now` advances only at the end of `Timeline.tick`), the tracks as left by the tracks
served before it — and its calls are the very same `applyOp`s.  So every theorem above that is stated for
an arbitrary timeline state `tl` (`update_semantics`, `schedTime_spec`, `schedTime_on_grid`) holds verbatim
for calls made from a callback; the two lemmas below make the instantiation explicit. -/

/-- What an (unmuted, active) action event does to the timeline is exactly its script run on the timeline
    as it stands, and it makes no device call of its own. -/
theorem callback_runs_ops (tl : TL) (t : Track) (d : Nat) (ops : List Op) (out : Outcome) (hm : t.muted = false) :
    (performEvent tl t d true (.action ops out)).tl = (applyOps tl ops).tl ∧
    (performEvent tl t d true (.action ops out)).calls = (applyOps tl ops).calls := by
  simp [performEvent, hm]

/-- An `update` issued from a callback during the tick in progress (time `tl.now`) on a track `t` of the
    timeline: quantized to the first grid point at or after the time of THIS tick, plus delay and latency
    (the else-branch of `update_semantics`, at the callback's timeline). -/
theorem callback_update_time (tl : TL) (tid sid : Nat) (qz dl count : Option Nat) (t : Track)
    (hf : tl.find tid = some t) (hq : ¬ (qz.getD tl.defQz = 0 ∧ dl.getD tl.defDl + tl.latency = 0)) :
    (applyOp tl (.update tid sid qz dl count)).tl.actions =
      tl.actions ++ [{ time := schedTime tl.q tl.now (qz.getD tl.defQz) (dl.getD tl.defDl + tl.latency), tid := t.id, sid := sid }] := by
  rw [applyOp, hf]
  show tl.actions ++ (updateCore tl t sid qz dl count).act.toList = _
  rw [update_semantics, if_neg hq]; rfl

example : schedTime 20 24 480 0 = 480 := by decide            -- tick 24 of 24/beat = beat 1, on the 1-beat grid
example : schedTime 20 25 480 120 = 960 + 120 := by decide    -- just after beat 1 → beat 2, plus delay
example : (480 : Nat) ∣ 24 * 20 := by decide

end IsobarV.C05
