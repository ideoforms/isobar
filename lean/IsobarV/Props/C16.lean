/-
C16 — MIDI files written by isobar read back as the same music.

  Writing any sequence of notes and chords to a MIDI file and reading it back yields the same pitches,
  velocities, onset times and sounding lengths to the file's tick resolution, and the same duration and
  gate for every event but the last, with trailing silence preserved in the file's length.  Reading any
  standard MIDI file places each note at the sum of all preceding delta times, whatever other messages
  (controllers, pitch-bend, meta events) are interleaved, and treats a note-on with velocity 0 as a
  note-off.

All times are file ticks.
-/
import IsobarV.Midi.Lemmas

namespace IsobarV.C16
open IsobarV.Midi

/-- Reading ANY track: a sounding note-on `m` preceded by the messages `pre` (of any kind, in any
    interleaving) and followed by any `post` yields a note — the k-th, k being the number of sounding
    note-ons before it — with `m`'s pitch and velocity, placed at the sum of the delta times of ALL
    messages up to and including `m`. -/
theorem reader_onset_is_sum_of_all_deltas (pre post : List Msg) (m : Msg) (hm : m.sounding) :
    ∃ n, (readNotes (pre ++ m :: post))[(pre.filter (fun x => decide x.sounding)).length]? = some n
      ∧ n.pitch = m.note ∧ n.vel = min m.vel 127
      ∧ n.loc = (pre.map (·.delta)).sum + m.delta := by
  have hk := readNotes_keys (pre ++ m :: post)
  rw [onsetsFrom_append] at hk
  simp only [onsetsFrom, hm, if_true, Nat.zero_add] at hk
  have hi := congrArg (fun l => l[(onsetsFrom 0 pre).length]?) hk
  simp only [List.getElem?_map, List.getElem?_append_right (Nat.le_refl _), Nat.sub_self,
    List.getElem?_cons_zero, Option.map_eq_some_iff] at hi
  obtain ⟨n, hn, hkey⟩ := hi
  rw [onsetsFrom_length] at hn
  simp only [RNote.key, Prod.mk.injEq] at hkey
  exact ⟨n, hn, hkey⟩

/-- non-vacuity: the repaired defect's input — a controller carrying 240 ticks between a note-on and
    its note-off, and before the next note-on. -/
example : readNotes [⟨.on, 60, 64, 0, 0⟩, ⟨.other, 0, 0, 0, 240⟩, ⟨.off, 60, 64, 0, 240⟩,
      ⟨.other, 0, 0, 0, 100⟩, ⟨.on, 62, 64, 0, 20⟩, ⟨.off, 62, 0, 0, 480⟩]
    = [⟨60, 64, 0, some 480⟩, ⟨62, 64, 600, some 480⟩] := by decide +kernel

/-- The reader creates exactly one note per sounding note-on, nothing else. -/
theorem reader_note_count (msgs : List Msg) :
    (readNotes msgs).length = (msgs.filter (fun x => decide x.sounding)).length := by
  rw [← onsetsFrom_length 0, ← readNotes_keys, List.length_map]

example : (readNotes [⟨.on, 60, 64, 0, 0⟩, ⟨.on, 61, 0, 0, 5⟩, ⟨.other, 0, 0, 0, 240⟩, ⟨.on, 60, 0, 0, 1⟩]).length = 1 := by
  decide +kernel

/-- "Whatever other messages are interleaved": a message that is neither a note-on nor a note-off
    contributes nothing but its delta time — the result of `read()` is the same as for the track in
    which it is deleted and its delta added to the next message (or simply deleted at the very end). -/
theorem other_messages_only_carry_time (pre post : List Msg) (o m : Msg) (ho : o.kind = .other) :
    readTrack (pre ++ o :: m :: post) = readTrack (pre ++ { m with delta := o.delta + m.delta } :: post)
      ∧ readTrack (pre ++ [o]) = readTrack pre := by
  unfold readTrack readNotes
  constructor
  · simp only [readFold_append, readFold_cons, rStep_other_merge _ o m ho]
  · simp only [readFold_append, readFold_cons, readFold_nil, rStep_other_notes _ o ho]

example : readTrack [⟨.on, 60, 64, 0, 0⟩, ⟨.other, 0, 0, 0, 240⟩, ⟨.off, 60, 64, 0, 240⟩]
    = readTrack [⟨.on, 60, 64, 0, 0⟩, ⟨.off, 60, 64, 0, 480⟩] := by decide +kernel

/-- A note-on with velocity 0 is a note-off: rewriting one such message anywhere in a track
    (`Msg.normalize` turns exactly the velocity-0 note-ons into note-offs), or all of them, does not
    change the result of `read()`. -/
theorem velocity_zero_note_on_is_note_off (pre post : List Msg) (m : Msg) :
    readTrack (pre ++ m.normalize :: post) = readTrack (pre ++ m :: post)
      ∧ readTrack ((pre ++ m :: post).map Msg.normalize) = readTrack (pre ++ m :: post) := by
  unfold readTrack readNotes
  constructor
  · simp only [readFold_append, readFold_cons, rStep_normalize]
  · rw [readFold_normalize]

example : (⟨.on, 60, 0, 3, 7⟩ : Msg).normalize = ⟨.off, 60, 0, 3, 7⟩ := by decide +kernel
example : readTrack [⟨.on, 60, 64, 0, 0⟩, ⟨.on, 60, 0, 0, 480⟩] = readTrack [⟨.on, 60, 64, 0, 0⟩, ⟨.off, 60, 0, 0, 480⟩] := by
  decide +kernel
example : readTrack [⟨.on, 60, 64, 0, 0⟩, ⟨.on, 60, 0, 0, 480⟩]
    = .ok { note := [.one 60], amp := [.one 64], gate := [.one 1], dur := [480] } := by decide +kernel

/-- The sounding length of a note: if between a note-on and a closing message of its pitch (a note-off
    or a velocity-0 note-on) no message starts or closes that pitch, the note's length is the sum of the
    delta times of ALL messages in between (of any kind) plus the closing message's own. -/
theorem reader_length_is_sum_of_deltas_between (pre mid post : List Msg) (on off : Msg)
    (hon : on.sounding) (hoff : off.closing) (hp : off.note = on.note)
    (hmid : ∀ m ∈ mid, (m.sounding ∨ m.closing) → m.note ≠ on.note) :
    ∃ n, (readNotes (pre ++ on :: (mid ++ off :: post)))[(pre.filter (fun x => decide x.sounding)).length]? = some n
      ∧ n.pitch = on.note ∧ n.vel = min on.vel 127
      ∧ n.loc = (pre.map (·.delta)).sum + on.delta
      ∧ n.len = some ((mid.map (·.delta)).sum + off.delta) := by
  have hns : ¬ off.sounding := by
    rintro ⟨hk, hv⟩
    rcases hoff with h | h
    · rw [hk] at h; cases h
    · exact Nat.ne_of_gt hv h.2
  unfold readNotes
  rw [readFold_append, readFold_cons, readFold_append, readFold_cons]
  generalize hs1 : readFold {} pre = s1
  have hoff1 : s1.offset = (pre.map (·.delta)).sum := by
    rw [← hs1, readFold_offset]; exact Nat.zero_add _
  have hlen1 : s1.notes.length = (pre.filter (fun m => decide m.sounding)).length := by
    rw [← hs1, readFold_notes_length]; exact Nat.zero_add _
  -- the note-on opens `n0` on top of the notes of `pre`
  obtain ⟨n0, hn0⟩ : ∃ n0 : RNote, n0 = ⟨on.note, min on.vel 127, s1.offset + on.delta, none⟩ := ⟨_, rfl⟩
  have h2 : rStep s1 on = ⟨s1.offset + on.delta, [] ++ n0 :: s1.notes⟩ := by
    simp only [rStep, rApply, hon, if_true, hn0, List.nil_append]
  -- `mid` cannot close it, so it runs as if on an empty note list, where it opens no note of this pitch
  obtain ⟨B1, e1, l1⟩ := readFold_around n0 mid
    (fun m hm hc h => hmid m hm (Or.inr hc) (by rw [hn0] at h; exact h.1.symm)) (s1.offset + on.delta) [] s1.notes
  have hnew := readFold_pitch_mem (s1.offset + on.delta) mid
  have hoffm := readFold_offset ⟨s1.offset + on.delta, []⟩ mid
  generalize readFold ⟨s1.offset + on.delta, []⟩ mid = sm at e1 hnew hoffm
  -- the closing message passes those notes by and closes `n0`
  obtain ⟨nc, hnc⟩ : ∃ nc : RNote, nc = { n0 with len := some ((mid.map (·.delta)).sum + off.delta) } := ⟨_, rfl⟩
  have h3 : rStep ⟨sm.offset, sm.notes ++ n0 :: B1⟩ off = ⟨sm.offset + off.delta, sm.notes ++ nc :: B1⟩ := by
    simp only [rStep, rApply, hns, hoff, if_false, if_true, hp]
    rw [closeFirst_append_of_not_mem, hnc, hn0, closeFirst, if_pos ⟨rfl, rfl⟩, hoffm,
      Nat.add_assoc (s1.offset + on.delta), Nat.add_sub_cancel_left]
    · intro a ha h
      obtain ⟨m, hm, hms, hmn⟩ := hnew a ha
      exact hmid m hm (Or.inl hms) (hmn.trans h.1)
  -- and nothing can close it again
  obtain ⟨B2, f1, l2⟩ := readFold_around nc post (fun _ _ _ h => by rw [hnc] at h; cases h.2)
    (sm.offset + off.delta) sm.notes B1
  rw [h2, e1, h3, f1, ← hlen1, ← l1, ← l2, List.reverse_append, List.reverse_cons, List.append_assoc,
    ← List.length_reverse, List.getElem?_append_right (Nat.le_refl _), Nat.sub_self]
  subst hnc hn0
  exact ⟨_, rfl, rfl, rfl, by rw [hoff1], rfl⟩

example : (⟨.on, 60, 64, 0, 0⟩ : Msg).sounding ∧ (⟨.on, 60, 0, 0, 240⟩ : Msg).closing
    ∧ ∀ m ∈ [(⟨.other, 0, 0, 0, 240⟩ : Msg), ⟨.on, 61, 9, 0, 3⟩], (m.sounding ∨ m.closing) → m.note ≠ 60 := by decide +kernel

/-- The writer puts every note call at the device time of the call: in the track written for the calls
    `pre ++ call :: post`, the deltas of the messages up to and including the call's message add up to
    the number of `tick()`s before the call. -/
theorem writer_deltas_sum_to_call_times (pre post : List Op) :
    (∀ n v c, ∃ d rest, writeFile (pre ++ .on n v c :: post)
        = writeBody 0 0 pre ++ { kind := .on, note := n, vel := v, chan := c, delta := d } :: rest
        ∧ ((writeBody 0 0 pre).map (·.delta)).sum + d = ticksIn pre)
    ∧ (∀ n c, ∃ d rest, writeFile (pre ++ .off n c :: post)
        = writeBody 0 0 pre ++ { kind := .off, note := n, vel := offVel, chan := c, delta := d } :: rest
        ∧ ((writeBody 0 0 pre).map (·.delta)).sum + d = ticksIn pre) := by
  obtain ⟨h1, h2⟩ := lastAfter_eq 0 0 pre (Nat.le_refl _)
  rw [Nat.zero_add] at h1 h2
  -- the call's message comes right after those of `pre`; its delta is what `pre` left of the ticks
  have hd := Nat.add_sub_cancel' (h1 ▸ h2)
  exact ⟨fun n v c => ⟨_, _, by rw [writeFile, writeFrom_append, h1, Nat.zero_add]; rfl, hd⟩,
    fun n c => ⟨_, _, by rw [writeFile, writeFrom_append, h1, Nat.zero_add]; rfl, hd⟩⟩

example : writeFile [.on 60 64 0, .tick, .tick, .off 60 0, .tick, .on 62 9 1, .tick]
    = [⟨.on, 60, 64, 0, 0⟩, ⟨.off, 60, 64, 0, 2⟩, ⟨.on, 62, 9, 1, 1⟩, ⟨.off, 0, 64, 0, 1⟩] := by decide +kernel

/-- Trailing silence is preserved in the file's length: the deltas of the written track (including the
    closing dummy note-off) add up to the end of the score — the sum of its durations — or to the end of
    its last sounding note if that is later. -/
theorem written_file_length (s : List SEv) (hs : ScoreOK 0 s) :
    ((writeFile (performScore s)).map (·.delta)).sum = max (totalDur s) (lastEnd 0 s) := by
  unfold writeFile performScore
  rw [writeFrom_sum 0 0 _ (Nat.le_refl _), Nat.sub_zero, ticksIn_perform s 0 [] hs, Nat.zero_add, maxTime,
    Nat.zero_max]

/-- a score used for non-vacuity: a long note under a chord, a re-struck pitch, a final short note
    followed by silence. -/
def demo : List SEv :=
  [⟨2, [⟨60, 64, 5, 0⟩]⟩, ⟨3, [⟨62, 10, 3, 0⟩, ⟨64, 20, 1, 1⟩]⟩, ⟨4, [⟨60, 30, 4, 0⟩]⟩, ⟨6, [⟨60, 127, 2, 0⟩]⟩]

example : ScoreOK 0 demo ∧ demo ≠ [] ∧ (∀ e ∈ demo, e.voices ≠ []) := by decide +kernel
example : ((writeFile (performScore demo)).map (·.delta)).sum = 15 ∧ totalDur demo = 15 ∧ lastEnd 0 demo = 11 := by decide +kernel

/-- Pitches, velocities, onset times and sounding lengths survive the round trip, note by note, to the
    file's tick: for every score of the property's domain (durations ≥ 1 tick, sounding voices, no two
    overlapping notes of one pitch; rests allowed) the reader's note list for the written file is the
    score's note list. -/
theorem write_read_notes (s : List SEv) (hs : ScoreOK 0 s) :
    readNotes (writeFile (performScore s)) = expectedNotes 0 s := by
  have hd := dFold_perform s 0 [] List.Pairwise.nil (fun _ h => by cases h) hs
  simp only [List.map_nil, List.append_nil] at hd
  unfold readNotes writeFile performScore
  rw [show ({} : RState) = ⟨0, []⟩ from rfl, readFold_writeFrom _ 0 0 [] (Nat.le_refl 0)]
  show (closeFirst 0 _ (dFold ⟨0, []⟩ (perform 0 (pendAt 0 []) s)).notes).reverse = _
  rw [hd, closeFirst_of_not_mem, List.reverse_reverse]
  intro n hn h
  have := (expectedNotes_mem 0 s n (List.mem_reverse.1 hn)).2
  rw [h.2] at this; cases this

example : readNotes (writeFile (performScore demo))
    = [⟨60, 64, 0, some 5⟩, ⟨62, 10, 2, some 3⟩, ⟨64, 20, 2, some 1⟩, ⟨60, 30, 5, some 4⟩, ⟨60, 127, 9, some 2⟩] := by decide +kernel

/-- The round trip: for every non-empty score of notes and chords in the property's domain, `read()` of
    the written file returns one entry per event with the event's pitches and velocities (scalar for one
    voice, tuple for a chord), its duration and its gates `length / duration` — except that the last
    event reads back with the duration of its longest note (and gates relative to that); all of this is
    `heardOut s`. -/
theorem write_read_roundtrip (s : List SEv) (hs : ScoreOK 0 s) (hne : s ≠ []) (hv : ∀ e ∈ s, e.voices ≠ []) :
    ∃ out, readFile [writeFile (performScore s)] = .ok out
      ∧ out.note = s.map (fun e => cellOf (e.voices.map (·.pitch)))
      ∧ out.amp = s.map (fun e => cellOf (e.voices.map (·.vel)))
      ∧ out.dur.dropLast = s.dropLast.map (·.dur)
      ∧ out.gate.dropLast
          = s.dropLast.map (fun e => cellOf (e.voices.map (fun v => ((v.len : Nat) : Rat) / ((e.dur : Nat) : Rat))))
      ∧ out = heardOut s := by
  refine ⟨heardOut s, ?_, rfl, rfl, heardDurs_dropLast s, heardGates_dropLast s, rfl⟩
  cases s with
  | nil => exact absurd rfl hne
  | cons e es =>
    have hon := performed_file_has_note_on e es hs.2.1 (hv e (by simp))
    have hall : (expectedNotes 0 (e :: es)).all (fun n => n.len.isSome) = true :=
      List.all_eq_true.2 fun n hn => (expectedNotes_mem 0 _ n hn).2
    simp only [readFile, selectTrack, hon, readTrack, write_read_notes _ hs, hall, if_true,
      onsetTimes_expected _ 0 hs hv]
    exact assemble_rows_expected _ 0 [] (fun n hn => by cases hn) hs hv

example : (heardOut demo).note = [.one 60, .many [62, 64], .one 60, .one 60] ∧ (heardOut demo).dur = [2, 3, 4, 2] := by
  decide +kernel

end IsobarV.C16
