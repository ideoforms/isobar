/-
C12 — pattern-valued parameters are resolved afresh at every step: the misc group.

* `PDict`: every value of the dict is a pattern-valued parameter; a step that yields consumes each of them exactly
  once, in key order; a step that does not yield has consumed exactly the values up to and including the one that
  ended (never skipped, never read twice).
* `PDictKey`: `dict` is resolved before `key`, each once per step.
* `Pattern.value` resolves recursively: a constant whose value is a pattern is transparent (`constP_transparent`), to
  any depth (`value_resolves_recursively`), a tuple containing such values resolves to the tuple of the patterns' own
  next values (`tuple_resolves_recursively`), and a `PSequence` item that is a constant of a pattern contributes the
  pattern's next value at each visit (`seq_item_constP`).
-/
import IsobarV.Props.C12
import IsobarV.Pat.Cls.MiscLemmas

namespace IsobarV.C12Misc
open IsobarV.Pat

theorem stepAll_all_once (rec : Rec) (kids : List Pat) (h : (stepAll rec kids).fail = Option.none) :
    (stepAll rec kids).kids = kids.map (fun k => (rec k).p) ∧
    (stepAll rec kids).vals.map (fun x => Out.val (.a x)) = kids.map (fun k => (rec k).out) := by
  induction kids with
  | nil => exact ⟨rfl, rfl⟩
  | cons k ks ih =>
    simp only [stepAll] at h ⊢
    split at h
    · rename_i x hx
      obtain ⟨i1, i2⟩ := ih h
      simp only [hx, List.map_cons, i1, i2]
      exact ⟨trivial, trivial⟩
    · cases h
    · cases h

theorem stepAll_fail_prefix (rec : Rec) (kids : List Pat) (o : Out) (h : (stepAll rec kids).fail = some o) :
    ∃ pre k post, kids = pre ++ k :: post ∧
      (stepAll rec kids).kids = pre.map (fun x => (rec x).p) ++ (rec k).p :: post ∧
      (∀ x ∈ pre, ∃ a, (rec x).out = .val (.a a)) ∧
      ((rec k).out = o ∨ (o = .err .unmodelled ∧ ∃ xs, (rec k).out = .val (.tup xs))) := by
  induction kids with
  | nil => cases h
  | cons k ks ih =>
    simp only [stepAll] at h ⊢
    split at h
    · next x hx =>
      obtain ⟨pre, k', post, e1, e2, e3, e4⟩ := ih h
      exact ⟨k :: pre, k', post, congrArg _ e1, congrArg _ e2, List.forall_mem_cons.mpr ⟨⟨x, hx⟩, e3⟩, e4⟩
    · next xs hx => exact ⟨[], k, ks, rfl, rfl, nofun, .inr ⟨(Option.some.inj h).symm, xs, hx⟩⟩
    · exact ⟨[], k, ks, rfl, rfl, nofun, .inl (Option.some.inj h)⟩

/-- **`PDict`: a step that yields a dict has consumed every value exactly once**, and the dict holds the values'
    outcomes in key order. -/
theorem dict_values_once (rec : Rec) (kids : List Pat) (st : St) (v : Val) (h : (stepTuple rec kids st).out = .val v) :
    (stepTuple rec kids st).kids = kids.map (fun k => (rec k).p) ∧
    ∃ xs, v = .tup xs ∧ xs.map (fun x => Out.val (.a x)) = kids.map (fun k => (rec k).out) := by
  cases hf : (stepAll rec kids).fail with
  | some o =>
    simp only [stepTuple, hf] at h
    exact absurd h (stepAll_fail_noVal rec kids o hf v)
  | none =>
    obtain ⟨i1, i2⟩ := stepAll_all_once rec kids hf
    simp only [stepTuple, hf, Out.val.injEq] at h ⊢
    exact ⟨i1, _, h.symm, i2⟩

/-- **`PDict`: values are consumed in key order**; when one of them ends (or raises) the ones before it have been
    consumed once, the ones after it not at all, and the step ends with that outcome. -/
theorem dict_values_in_order (rec : Rec) (kids : List Pat) (st : St) (h : ∀ v, (stepTuple rec kids st).out ≠ .val v) :
    ∃ pre k post, kids = pre ++ k :: post ∧
      (stepTuple rec kids st).kids = pre.map (fun x => (rec x).p) ++ (rec k).p :: post ∧
      (∀ x ∈ pre, ∃ a, (rec x).out = .val (.a a)) := by
  simp only [stepTuple] at h ⊢
  split
  · rename_i o ho
    obtain ⟨pre, k, post, e1, e2, e3, _⟩ := stepAll_fail_prefix rec kids o ho
    exact ⟨pre, k, post, e1, e2, e3⟩
  · rename_i hn
    simp only [hn] at h
    exact absurd rfl (h _)

/-- A tuple containing patterns: the same consumption discipline (its step function is the dict's). -/
theorem tupP_elements_once (rec : Rec) (kids : List Pat) (st : St) (v : Val)
    (h : (clsStep .tupP rec kids st).out = .val v) :
    (clsStep .tupP rec kids st).kids = kids.map (fun k => (rec k).p) :=
  (dict_values_once rec kids st v h).1

/-- **`PDictKey`: when the dict pattern yields, `dict` and `key` are each consumed exactly once.** -/
theorem dictKey_key_once (rec : Rec) (key d : Pat) (st : St) (h0 : st.n0 = 0) (dv : Val) (hd : (rec d).out = .val dv) :
    (stepDictKey rec [key, d] st).kids = [(rec key).p, (rec d).p] := by
  rcases Out.val_or_noVal (rec key).out with ⟨kv, hkv⟩ | hkv
  · rw [stepDictKey_vals (rec := rec) (kids := [key, d]) h0 hd hkv]; rfl
  · rw [stepDictKey_key_fail (rec := rec) (kids := [key, d]) h0 hd hkv]; rfl

/-- **`dict` is resolved before `key`**: when the dict pattern ends, the step ends with it and the key is not consumed. -/
theorem dictKey_dict_before_key (rec : Rec) (key d : Pat) (st : St) (h0 : st.n0 = 0) (hd : ∀ v, (rec d).out ≠ .val v) :
    (stepDictKey rec [key, d] st).kids = [key, (rec d).p] ∧ (stepDictKey rec [key, d] st).out = (rec d).out := by
  rw [stepDictKey_dict_fail (rec := rec) (kids := [key, d]) h0 hd]
  exact ⟨rfl, rfl⟩

/-- `PDictKey` over a plain dict: the key is resolved exactly once per step (the dict's values keep their places). -/
theorem dictKey_plain_key_once (rec : Rec) (key : Pat) (vals : List Pat) (st : St) (h1 : st.n0 ≠ 0) :
    ∃ rest, (stepDictKey rec (key :: vals) st).kids = (rec key).p :: rest ∧ rest.length = vals.length := by
  simp only [stepDictKey, if_neg h1, stepKid, List.getElem?_cons_zero, List.set_cons_zero]
  split
  · split
    · rename_i j _
      cases hj : ((rec key).p :: vals)[j + 1]? with
      | none => exact ⟨vals, by simp, rfl⟩
      | some k => exact ⟨vals.set j (rec k).p, by simp [List.set], by simp⟩
    · exact ⟨vals, rfl, rfl⟩
  · exact ⟨vals, rfl, rfl⟩
  · exact ⟨vals, rfl, rfl⟩

/-- **A constant whose value is a pattern is transparent to `Pattern.value`**: resolving `PConstant(p)` yields
    `p`'s next value and advances `p` by exactly one step. -/
theorem constP_transparent (rec : Rec) (p : Pat) (st : St) :
    (stepConstP rec [p] st).out = (rec p).out ∧ (stepConstP rec [p] st).kids = [(rec p).p] ∧
    (stepConstP rec [p] st).st = st :=
  ⟨rfl, rfl, rfl⟩

theorem constP_outs (rec : Rec) (n : Nat) (p : Pat) (st : St) :
    clsOuts stepConstP rec n [p] st = recOuts rec n p := by
  induction n generalizing p with
  | zero => rfl
  | succ n ih => exact congrArg ((rec p).out :: ·) (ih (rec p).p)

/-- `PConstant(PConstant(… p …))`, `d` constants deep. -/
def tower : Nat → Pat → Pat
  | 0, p => p
  | d + 1, p => .node .constP [tower d p] {}

/-- **`Pattern.value` resolves a pattern that yields patterns down to the scalar, at any depth**: one resolution of
    the `d`-fold constant of `p` yields `p`'s own next value and leaves the `d`-fold constant of the advanced `p`. -/
theorem value_resolves_recursively (fuel d : Nat) (p : Pat) :
    stepF (fuel + d) (tower d p) = { out := (stepF fuel p).out, p := tower d (stepF fuel p).p } := by
  induction d with
  | zero => rfl
  | succ d ih =>
    have hc : clsStep .constP = stepConstP := rfl
    show stepF (fuel + d + 1) (.node .constP [tower d p] {}) = _
    simp only [stepF, hc, stepConstP, stepKid, List.getElem?_cons_zero, List.set_cons_zero, ih, tower]

/-- The whole output sequence of the `d`-fold constant of `p` is `p`'s. -/
theorem constP_tower (fuel d n : Nat) (p : Pat) : outs (fuel + d) n (tower d p) = outs fuel n p := by
  induction n generalizing p with
  | zero => rfl
  | succ n ih =>
    simp only [outs, value_resolves_recursively]
    rw [ih]

theorem stepAll_tower (fuel d : Nat) (ps : List Pat) :
    (stepAll (stepF (fuel + d)) (ps.map (tower d))).fail = (stepAll (stepF fuel) ps).fail ∧
    (stepAll (stepF (fuel + d)) (ps.map (tower d))).vals = (stepAll (stepF fuel) ps).vals ∧
    (stepAll (stepF (fuel + d)) (ps.map (tower d))).kids = (stepAll (stepF fuel) ps).kids.map (tower d) := by
  induction ps with
  | nil => exact ⟨rfl, rfl, rfl⟩
  | cons p ps ih =>
    obtain ⟨i1, i2, i3⟩ := ih
    simp only [List.map_cons, stepAll, value_resolves_recursively]
    split <;> simp only [i1, i2, i3, List.map_cons, and_self]

/-- **Tuples containing patterns are resolved recursively down to scalars**: resolving a tuple whose elements are
    `d`-fold constants of the patterns `ps` yields the tuple of the patterns' own next values (or ends with the first
    of them that ends), and advances each of them exactly as resolving the bare tuple of `ps` would. -/
theorem tuple_resolves_recursively (fuel d : Nat) (ps : List Pat) (st : St) :
    (stepF (fuel + d + 1) (.node .tupP (ps.map (tower d)) st)).out = (stepF (fuel + 1) (.node .tupP ps st)).out ∧
    (stepF (fuel + d + 1) (.node .tupP (ps.map (tower d)) st)).p =
      .node .tupP ((stepAll (stepF fuel) ps).kids.map (tower d)) st := by
  have hc : clsStep .tupP = stepTuple := rfl
  obtain ⟨i1, i2, i3⟩ := stepAll_tower fuel d ps
  simp only [stepF, hc, stepTuple, i1, i2, i3]
  split <;> exact ⟨rfl, rfl⟩

/-- **A `PSequence` item that is a constant of a pattern** contributes the pattern's next value at each visit (and
    the pattern advances by one step): `PSequence([PConstant(p), …])` reads `p` item-wise. -/
theorem seq_item_constP (fuel : Nat) (kids : List Pat) (st : St) (p : Pat) (cs : St)
    (hg : ¬ (kids.length = 0 ∨ (0 ≤ st.n0 ∧ st.n0 ≤ st.n2))) (hk : kids[st.n1.toNat]? = some (.node .constP [p] cs)) :
    (stepSeq (stepF (fuel + 1)) kids st).out = (stepF fuel p).out ∧
    (stepSeq (stepF (fuel + 1)) kids st).kids = kids.set st.n1.toNat (.node .constP [(stepF fuel p).p] cs) := by
  obtain ⟨h1, h2⟩ := C12.seq_item_resolved (stepF (fuel + 1)) kids st _ hg hk
  have hc : clsStep .constP = stepConstP := rfl
  rw [h1, h2]
  simp [stepF, hc, stepConstP, stepKid]

section Example
def c (i : Int) : Pat := Pat.const (.int i)
def sq (xs : List Pat) (rep : Int) : Pat := .node .seq xs { n0 := rep }
/-- `PSequence([PConstant(PConstant(PSequence([1, 2, 3], 1))), 9])` -/
example : outs 10 6 (sq [tower 2 (sq [c 1, c 2, c 3] 1), c 9] (-1)) =
    [.val (.int 1), .val (.int 9), .val (.int 2), .val (.int 9), .val (.int 3), .val (.int 9)] := by decide +kernel
/-- `PSequence([(PConstant(PSequence([1, 2], 1)), 5, PSequence([7, 8, 9]))])`: the tuple is resolved element-wise and
    ends with the first element that ends -/
example : outs 10 4 (sq [.node .tupP [tower 1 (sq [c 1, c 2] 1), c 5, sq [c 7, c 8, c 9] (-1)] {}] (-1)) =
    [.val (.tup [.int 1, .int 5, .int 7]), .val (.tup [.int 2, .int 5, .int 8]), .stop, .stop] := by decide +kernel
/-- a dict with a varying value: one value per step, in order -/
example : outs 10 3 (.node .dict [sq [c 1, c 2] (-1), c 5] { buf := [.str "a", .str "b"] }) =
    [.val (.tup [.int 1, .int 5]), .val (.tup [.int 2, .int 5]), .val (.tup [.int 1, .int 5])] := by decide +kernel
end Example

end IsobarV.C12Misc
