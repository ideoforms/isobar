/-
C10 — `PMetropolis` (after fix 95, commit 4d5b1f5): the reference definition, block by block.

For note number `i` (with `r = repeats[i mod |repeats|]`, `s = rests[i mod |rests|]`, both ≥ 0) the pattern plays the note
`r` times and then `s + 1` rests (the code compares `note_offset > repeats + rests`, so a block is one step longer than
`repeats + rests`), then moves on to note `i + 1`, wrapping to note 0 after the last.  `met_inside` is one step inside a block,
`met_block` the whole rest of a block from any offset, `met_wrap` the move to the next block.
-/
import IsobarV.Pat.Cls.Ext2Lemmas
import IsobarV.Pat.Streams

namespace IsobarV.C10Metropolis
open IsobarV.Pat

/-- The state stands in the block of note `idx` (at any offset `st.n1`): `v` is the note, `r` and `s` its entries of
    `repeats` and `rests`, taken cyclically. -/
structure InBlock (st : St) (idx : Nat) (v : Val) (r s : Int) : Prop where
  len : idx < st.buf.length
  note : st.buf[idx]? = some v
  reps : metCyc (metRepeats st) idx = some (.a (.int r))
  rests : metCyc (metRests st) idx = some (.a (.int s))
  rpos : 0 ≤ r
  spos : 0 ≤ s
  at_idx : st.n0 = idx

theorem InBlock.step {st : St} {idx : Nat} {v : Val} {r s : Int} (h : InBlock st idx v r s) (rec : Rec) (kids : List Pat) :
    stepMetropolis rec kids st =
      metEmit kids st (metIndex st.buf.length r s idx st.n1) (metOffset st.buf.length r s idx st.n1) := by
  have hidx : st.n0.toNat = idx := by rw [h.at_idx]; rfl
  rw [stepMetropolis_eq_emit rec kids (hidx ▸ h.reps) (hidx ▸ h.rests), h.at_idx]

theorem InBlock.emit {st : St} {idx : Nat} {v : Val} {r s : Int} (h : InBlock st idx v r s) (kids : List Pat) (off : Int) :
    metEmit kids st idx off =
      { out := if off < r then .val v else .val Val.none, kids := kids, st := { st with n0 := idx, n1 := off + 1 } } :=
  metEmit_note kids off h.reps h.note

theorem metIndex_inside {len idx : Nat} {r s off : Int} (hoff : off ≤ r + s) (hlen : idx < len) :
    metIndex len r s idx off = idx ∧ metOffset len r s idx off = off := by
  have hnot : ¬ (r + s < off) := by omega
  have hl : ¬ ((len : Int) ≤ (idx : Int)) := by omega
  simp only [metIndex, metOffset, if_neg hnot, if_neg hl, and_self]

theorem metIndex_next {len idx : Nat} {r s off : Int} (hend : r + s < off) :
    metIndex len r s idx off = ((if idx + 1 < len then idx + 1 else 0 : Nat) : Int) ∧ metOffset len r s idx off = 0 := by
  simp only [metIndex, metOffset, if_pos hend, ite_self, and_true]
  by_cases hl : idx + 1 < len
  · rw [if_pos hl, if_neg (by omega)]; rfl
  · rw [if_neg hl, if_pos (by omega)]; rfl

/-- **One step inside a block**: at offset `off ≤ r + s` the note (while `off < r`) or a rest, and the offset advances. -/
theorem met_inside (rec : Rec) (kids : List Pat) (st : St) (idx : Nat) (v : Val) (r s : Int)
    (h : InBlock st idx v r s) (hoff : st.n1 ≤ r + s) :
    (stepMetropolis rec kids st).out = (if st.n1 < r then .val v else .val Val.none) ∧
    (stepMetropolis rec kids st).st = { st with n0 := idx, n1 := st.n1 + 1 } ∧
    (stepMetropolis rec kids st).kids = kids := by
  rw [h.step, (metIndex_inside hoff h.len).1, (metIndex_inside hoff h.len).2, h.emit]
  exact ⟨rfl, rfl, rfl⟩

/-- **The rest of a block**: from offset `off` the next `r + s + 1 − off` values are the note while the offset is below
    `repeats[i]` and rests afterwards — `repeats[i]` notes and `rests[i] + 1` rests in all when the block is entered at 0. -/
theorem met_block (rec : Rec) (kids : List Pat) (idx : Nat) (v : Val) (r s : Int) (n : Nat) :
    ∀ st : St, InBlock st idx v r s → st.n1 + n = r + s + 1 →
      clsOuts stepMetropolis rec n kids st =
        (List.range n).map (fun (j : Nat) => if st.n1 + (j : Int) < r then Out.val v else Out.val Val.none) := by
  induction n with
  | zero => intro st _ _; rfl
  | succ n ih =>
    intro st h hn
    obtain ⟨ho, hst, hk⟩ := met_inside rec kids st idx v r s h (by omega)
    rw [range_succ_map, clsOuts, ho, hst, hk,
      ih { st with n0 := idx, n1 := st.n1 + 1 } ⟨h.len, h.note, h.reps, h.rests, h.rpos, h.spos, rfl⟩ (by simp only; omega)]
    simp only [Int.natCast_zero, Int.add_zero, Int.natCast_succ, Int.add_assoc, Int.add_comm 1]

/-- **The move to the next block**: a step taken at the end of a block (`note_offset > repeats[i] + rests[i]`) is the step
    taken at offset 0 of the next note — note `i + 1`, or note 0 after the last one. -/
theorem met_wrap (rec : Rec) (kids : List Pat) (st : St) (idx idx' : Nat) (v v' : Val) (r s r' s' : Int)
    (h : InBlock st idx v r s) (hend : r + s < st.n1)
    (hnext : idx' = if idx + 1 < st.buf.length then idx + 1 else 0)
    (h' : InBlock { st with n0 := (idx' : Int), n1 := 0 } idx' v' r' s') :
    stepMetropolis rec kids st = stepMetropolis rec kids { st with n0 := (idx' : Int), n1 := 0 } := by
  have hI' := metIndex_inside (len := st.buf.length) (idx := idx') (r := r') (s := s') (off := 0)
    (by have := h'.rpos; have := h'.spos; omega) h'.len
  -- both sides are `metEmit` at note `idx'`, offset 0; the two states differ in the counters only
  rw [h.step, (metIndex_next hend).1, (metIndex_next hend).2, ← hnext, h'.step]
  simp only [hI'.1, hI'.2]
  exact (metEmit_note kids 0 h'.reps h'.note).trans (h'.emit kids 0).symm

/-- A concrete block: `PMetropolis([60, 62], [2], [1])` entered at note 0 plays 60 60 · · (two notes, `1 + 1` rests). -/
example : clsOuts stepMetropolis (fun p => { out := .stop, p := p }) 4 []
    { buf := [.int 60, .int 62], buf2 := [.int 2, .int 1], n2 := 1 } =
    [.val (.int 60), .val (.int 60), .val Val.none, .val Val.none] := by decide +kernel

end IsobarV.C10Metropolis
