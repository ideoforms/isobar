/-
C01 — the float clock of the implementation (after fix fb10b52) does not drift.

`Props/C01.lean` proves the closed form of the onsets in the integer-time model.  The implementation keeps
its time in floats; `Sched/FloatTime.lean` models `Timeline.time_after_tick` with an abstract rounding
function.  The statements below are the property's "for every run length" on that model.
-/
import IsobarV.Props.C01
import IsobarV.Sched.FloatTime
import IsobarV.Sched.FloatSum

namespace IsobarV.C01
open IsobarV.FloatTime IsobarV.FloatSum

/-- **For every run length the tick clock is one rounding away from the ideal time** (and exactly the
    correctly rounded quotient): nothing accumulates from tick to tick.  `fl` is any rounding with relative
    error at most `ε`; for IEEE doubles (ε = 2⁻⁵³) the bound on `k` is 4.5·10⁹ ticks. -/
theorem tick_time_never_drifts (fl : ℚ → ℚ) (ε : ℚ) (hε : 0 ≤ ε) (hfl : ∀ x, |fl x - x| ≤ ε * |x|) (h0 : fl 0 = 0)
    (tpb : ℕ) (htpb : 0 < tpb) (k : ℕ) (hk : (k : ℚ) * (2 * ε + ε ^ 2) < 1 / 1000000) :
    clock fl tpb k = fl ((k : ℚ) / tpb) ∧ |clock fl tpb k - (k : ℚ) / tpb| ≤ ε * ((k : ℚ) / tpb) := by
  have h := clock_exact fl ε hε hfl h0 tpb htpb k hk
  have h' := hfl ((k : ℚ) / tpb)
  rw [← h, abs_div, Nat.abs_cast, Nat.abs_cast] at h'
  exact ⟨h, h'⟩

/-- The rounded comparison `round(current_time, 8) >= round(next_event_time, 8)` tolerates 5·10⁻⁹ beats:
    with doubles the clock stays inside that tolerance for every time below 4.5·10⁷ beats (260 days at 120 bpm)
    among the first 4·10⁹ ticks (at 480 PPQN these end first, after 8.3·10⁶ beats). -/
theorem tick_time_within_guard (fl : ℚ → ℚ) (hfl : ∀ x, |fl x - x| ≤ (1 / 2 ^ 53) * |x|) (h0 : fl 0 = 0)
    (tpb : ℕ) (htpb : 0 < tpb) (k : ℕ) (hk : (k : ℚ) ≤ 4000000000) (hbeats : (k : ℚ) / tpb ≤ 45000000) :
    |clock fl tpb k - (k : ℚ) / tpb| < 5 / 1000000000 := by
  have hε : (0 : ℚ) ≤ 1 / 2 ^ 53 := by positivity
  have hk' : (k : ℚ) * (2 * (1 / 2 ^ 53) + (1 / 2 ^ 53) ^ 2) < 1 / 1000000 :=
    (mul_le_mul_of_nonneg_right hk (by positivity)).trans_lt (by norm_num)
  exact ((tick_time_never_drifts fl _ hε hfl h0 tpb htpb k hk').2.trans
    (mul_le_mul_of_nonneg_left hbeats hε)).trans_lt (by norm_num)

/-- **For every number of events the accumulated event time is within one rounding of the total (plus the
    roundings of the corrected durations) of the exact sum of the durations** — compensated summation,
    `Sched/FloatSum.lean`; hypotheses: the standard rounding model and the exactness of the two
    error-recovering subtractions along the run (Fast2Sum; checked on the real floats by the harness). -/
theorem event_time_never_drifts (fl : ℚ → ℚ) (ε M : ℚ) (hε : 0 ≤ ε) (hM0 : 0 ≤ M) (hfl : ∀ x, |fl x - x| ≤ ε * |x|)
    (s0 : ℚ) (ds : List ℚ) (hE : Exact fl ⟨s0, 0⟩ ds) (hG : Mag fl M ⟨s0, 0⟩ ds) :
    |(krun fl ⟨s0, 0⟩ ds).s - (s0 + ds.sum)| ≤ ε * M + ε * ((ds.map (fun d => |d|)).sum + ds.length * (ε * M)) :=
  kahan_error fl ε M hε hM0 hfl s0 ds hE hG

/-- With doubles the event times stay inside the 5·10⁻⁹ tolerance of the rounded comparisons for up to
    10¹² events within 2·10⁷ beats (115 days at 120 bpm). -/
theorem event_time_within_guard (fl : ℚ → ℚ) (hfl : ∀ x, |fl x - x| ≤ (1 / 2 ^ 53) * |x|)
    (s0 : ℚ) (ds : List ℚ) (M : ℚ) (hM0 : 0 ≤ M) (hM : M ≤ 20000000)
    (hE : Exact fl ⟨s0, 0⟩ ds) (hG : Mag fl M ⟨s0, 0⟩ ds)
    (hD : (ds.map (fun d => |d|)).sum ≤ M) (hk : (ds.length : ℚ) ≤ 1000000000000) :
    |(krun fl ⟨s0, 0⟩ ds).s - (s0 + ds.sum)| < 5 / 1000000000 := by
  have hε : (0 : ℚ) ≤ 1 / 2 ^ 53 := by positivity
  have hεM := mul_le_mul_of_nonneg_left hM hε
  calc |(krun fl ⟨s0, 0⟩ ds).s - (s0 + ds.sum)|
      ≤ _ := kahan_error fl _ M hε hM0 hfl s0 ds hE hG
    _ ≤ 1 / 2 ^ 53 * 20000000 + 1 / 2 ^ 53 * (20000000 + 1000000000000 * (1 / 2 ^ 53 * 20000000)) :=
        add_le_add hεM (mul_le_mul_of_nonneg_left
          (add_le_add (hD.trans hM) (mul_le_mul hk hεM (mul_nonneg hε hM0) (by norm_num))) hε)
    _ < 5 / 1000000000 := by norm_num

end IsobarV.C01
