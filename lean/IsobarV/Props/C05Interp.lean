/-
C05 for interpolating tracks: "from that tick on only the new one".

The scheduler model (`Sched/Model.lean`) has no interpolation; the interpolating branch of `Track.tick`
has a model of its own (`Interp/Model.lean`, property C15).  `Interp/Restart.lean` adds `Track.start` to it
(as the code is since fix 5de958e).  The statement below is the clause of C05 on that model; its conclusion
— the updated track behaves, from the switch tick on, like a new track of the new stream — is what
`c05.interpolation_update_cases` observes on the real Timeline.
This is the module the C05 check audits (`harness/props/c05.py`); it imports `Props.C05` only so that one module
brings in all of C05's theorems.
-/
import IsobarV.Props.C05
import IsobarV.Interp.Restart

namespace IsobarV.C05
open IsobarV.Interp

/-- An interpolating track switched to the stream `pts` (immediately, or when its quantized / delayed start
    fires) sends, from that tick on and for any number of ticks, exactly what a new track of `pts` sends —
    for every easing `f`, every old stream, and whatever point of whatever segment the old interpolation had
    reached.  This is `Interp.start_plays_only_the_new_stream`. -/
theorem interpolating_update_plays_only_the_new_stream (f : Rat → Rat) (t : Interp.Track) (pts : List Pt) (n : Nat) :
    Interp.run f n (t.start pts) = Interp.run f n { Interp.Track.fresh pts t.maxCount with count := t.count } :=
  start_plays_only_the_new_stream f t pts n

end IsobarV.C05
