/-
C20 — String notation parses to the structure its brackets describe.

Model: `IsobarV/Notation/Model.lean` (tokenizer for exactly the regex of `_parser_get_next_token`, the
push-down loop of `parse_notation` after the stray-`]` repair, `Pattern.pattern` on strings, `next()` of the
parsed nested `PSequence`).  The notions the statements are written in (`tokenize`, `render`, `LayoutOK`,
`Balanced`, `Tree.ValidL`, `itemsL`, `PS.live`, `nthT`, …) are defined in `IsobarV/Notation/Lemmas.lean` and
`PlayLemmas.lean`.
-/
import IsobarV.Notation.Lemmas
import IsobarV.Notation.PlayLemmas

namespace IsobarV.C20
open IsobarV.Notation

/-- **`parse_notation` is the scanner followed by the stack machine**, and every failure is a `ValueError`. -/
theorem parse_eq (s : List Char) :
    parse s = match tokenize s with
      | .ok toks => (sm (toks.map itemOf) [] []).elim (.error .valueError) .ok
      | .error _ => .error .valueError := by
  have h := parseLoop_eq (s.length + 1) [] [] s
  simp only [plugIn, List.length_nil] at h
  unfold parse tokenize
  cases ht : tokenizeLoop (s.length + 1) s with
  | ok toks =>
    rw [ht] at h
    rw [h]
    dsimp only
    cases sm (toks.map itemOf) [] [] <;> rfl
  | error e =>
    rw [ht] at h
    rcases h with h | h <;> rw [h]
    cases e with
    | internal => exact absurd ht (tokenizeLoop_not_internal _ s (Nat.lt_succ_self _))
    | _ => rfl

private theorem parse_ok_iff (s : List Char) (r : List Tree) :
    parse s = .ok r ↔ ∃ toks, tokenize s = .ok toks ∧ sm (toks.map itemOf) [] [] = some r := by
  rw [parse_eq]
  cases tokenize s with
  | error e => exact ⟨nofun, nofun⟩
  | ok toks =>
    simp only [Except.ok.injEq, exists_eq_left']
    cases sm (toks.map itemOf) [] [] <;> simp [Option.elim]

/-- **No model-only error.**  `parse` returns a tree or `ValueError`: the fuel of the loop is never
exhausted and `_parser_push` never walks into a missing or non-sequence element (the depth invariant of
`parseLoop_eq`). -/
theorem no_internal_error (s : List Char) :
    (∃ r, parse s = .ok r) ∨ parse s = .error .valueError := by
  rw [parse_eq]
  cases tokenize s with
  | error e => exact .inr rfl
  | ok toks =>
    dsimp only
    cases sm (toks.map itemOf) [] [] with
    | none => exact .inr rfl
    | some r => exact .inl ⟨r, rfl⟩

example : parse [] = .error .valueError := rfl
example : parse ['1', ' ', '[', '2', ']'] = .ok [.leaf (.int 1), .group [.leaf (.int 2)]] := rfl

/-- **Round trip, any inner white space.**  For every non-empty nested sequence `ts` of
integers (of either sign), decimal floats given as digit strings and note names, and every way `lay` of
writing its tokens with runs of white space between them (any amount, any of the characters `str.lstrip`
removes; an empty run only next to a bracket; trailing white space allowed), the string parses back to
exactly `ts`: same tokens, same order, same nesting, same types. -/
theorem parse_layout_roundtrip (ts : List Tree) (hne : ts ≠ []) (hv : Tree.ValidL ts)
    (lay : List (List Char × List Char)) (htok : lay.map Prod.fst = tokensL ts) (hlay : LayoutOK lay) :
    parse (render lay) = .ok ts := by
  rw [parse_ok_iff]
  obtain ⟨h1, h2⟩ := tokensL_spec ts hv
  have hlne : lay ≠ [] := fun h => tokensL_ne_nil hne (by rw [← htok, h]; rfl)
  have ht : ∀ p ∈ lay, TokText p.1 := fun p hp => h2 _ (htok ▸ List.mem_map_of_mem hp)
  refine ⟨tokensL ts, ?_, ?_⟩
  · unfold tokenize
    rw [tokenizeLoop_render lay hlne ht hlay _ (Nat.lt_succ_self _), htok]
  · rw [h1]; exact sm_itemsL ts

example : parse (render [(['1'], [' ', '\t']), (['['], []), (['c', '#', '4'], ['\n']), ([']'], [' '])]) =
    .ok [.leaf (.int 1), .group [.leaf (.name ['c', '#', '4'])]] := rfl

/-- **Round trip.**  Formatting any non-empty nested sequence (`format`: one blank between elements, none
inside the brackets) and parsing it back is the identity. -/
theorem parse_format_roundtrip (ts : List Tree) (hne : ts ≠ []) (hv : Tree.ValidL ts) :
    parse (format ts) = .ok ts := by
  have := parse_layout_roundtrip ts hne hv (canonLayout (tokensL ts)) (canonLayout_fst _) (canonLayout_ok _)
  rwa [render_canonLayout] at this

example : format [.leaf (.int (-2)), .group [.leaf (.flt true ['3', '0'] ['2', '0']), .group []], .leaf (.name ['g', '9'])]
    = "-2 [-30.20 []] g9".toList := by decide +kernel
example : parse (format [.leaf (.int (-2)), .group [.leaf (.flt true ['3', '0'] ['2', '0']), .group []]])
    = .ok [.leaf (.int (-2)), .group [.leaf (.flt true ['3', '0'] ['2', '0']), .group []]] := rfl

/-- **Structure of every accepted string.**  Whatever string is accepted, the returned tree read in order
(`itemsL`: `[`, `]`, leaves) is exactly the token sequence of the string, each atom converted by
`_parser_token_to_value`; and the string is those tokens separated by white space only. -/
theorem parse_structure (s : List Char) (r : List Tree) (h : parse s = .ok r) :
    ∃ lay : List (List Char × List Char),
      render lay = s ∧ (∀ p ∈ lay, ∀ c ∈ p.2, isSpace c = true) ∧
      tokenize s = .ok (lay.map Prod.fst) ∧ itemsL r = (lay.map Prod.fst).map itemOf := by
  obtain ⟨toks, h1, h2⟩ := (parse_ok_iff s r).mp h
  obtain ⟨lay, rfl, hl2, hl4⟩ := tokenizeLoop_sound _ _ _ h1
  exact ⟨lay, hl2, fun p hp => (hl4 p hp).2, h1, (sm_sound _ _ _ _ h2).symm⟩

/-- **Accepted iff balanced.**  A string is accepted exactly when it scans into tokens whose brackets are
balanced: every prefix has depth ≥ 0 and the total depth is 0. -/
theorem accepts_iff_balanced (s : List Char) :
    (∃ r, parse s = .ok r) ↔ ∃ toks, tokenize s = .ok toks ∧ Balanced toks := by
  simp only [parse_ok_iff, ← sm_accepts_iff]
  exact ⟨fun ⟨r, toks, h1, h2⟩ => ⟨toks, h1, r, h2⟩, fun ⟨toks, h1, r, h2⟩ => ⟨r, toks, h1, h2⟩⟩

example : Balanced [['1'], ['['], ['2'], [']']] := (sm_accepts_iff _).mp ⟨_, rfl⟩
example : ¬ Balanced [['1'], [']'], ['2']] := fun h => absurd (h.1 2) (by decide)

/-- **A stray `]` is rejected** (the repaired defect): if some prefix of the tokens closes more brackets
than it opened, the string is not accepted — `'1 ] 2'`, `'] [ 1'`, `'[1 2]]'`. -/
theorem stray_close_rejected (s : List Char) (toks : List (List Char)) (h : tokenize s = .ok toks)
    (k : Nat) (hk : net (toks.take k) < 0) : parse s = .error .valueError := by
  refine (no_internal_error s).resolve_left fun hr => ?_
  obtain ⟨toks', h1, h2⟩ := (accepts_iff_balanced s).mp hr
  cases h.symm.trans h1
  exact absurd (h2.1 k) (Int.not_le.mpr hk)

example : parse ['1', ' ', ']', ' ', '2'] = .error .valueError := rfl
example : parse [']', ' ', '[', ' ', '1'] = .error .valueError := rfl
example : parse ['[', '1', ' ', '2', ']', ']'] = .error .valueError := rfl
example : tokenize ['1', ' ', ']', ' ', '2'] = .ok [['1'], [']'], ['2']] ∧ net ([['1'], [']'], ['2']].take 2) < 0 :=
  ⟨rfl, by decide⟩

/-- **Foreign characters are rejected.**  A string that contains, anywhere, a character outside
`0-9 - . # a-g [ ]` and white space raises `ValueError`. -/
theorem foreign_char_rejected (s : List Char) (c : Char) (hc : c ∈ s) (hf : Foreign c) :
    parse s = .error .valueError := by
  refine (no_internal_error s).resolve_left fun ⟨r, hr⟩ => ?_
  obtain ⟨toks, h1, -⟩ := (parse_ok_iff s r).mp hr
  obtain ⟨lay, -, rfl, hl⟩ := tokenizeLoop_sound _ _ _ h1
  -- the character lies in a token or in a run of white space
  obtain ⟨p, hp, h | h⟩ := mem_render.mp hc
  · exact hf.not_tokChar ((hl p hp).1.chars c h)
  · exact Bool.eq_false_iff.mp hf.1 ((hl p hp).2 c h)

example : Foreign 'x' := by decide
example : Foreign '_' := by decide
example : parse ['1', ' ', 'x', ' ', '2'] = .error .valueError := rfl

/-- **Invalid strings stay constants.**  `Pattern.pattern(s)` (applied by `PDict` to every value of an event
dictionary) keeps `s` as a plain constant when `s` contains a foreign character or its brackets are not
balanced. -/
theorem invalid_string_is_constant (s : List Char)
    (h : (∃ c ∈ s, Foreign c) ∨ (∀ toks, tokenize s = .ok toks → ¬ Balanced toks)) :
    patternOf s = .const s := by
  have hrej : parse s = .error .valueError := by
    rcases h with ⟨c, hc, hf⟩ | h
    · exact foreign_char_rejected s c hc hf
    · refine (no_internal_error s).resolve_left fun hr => ?_
      obtain ⟨toks, h1, h2⟩ := (accepts_iff_balanced s).mp hr
      exact h toks h1 h2
  rw [patternOf, hrej]

example : patternOf ['1', ' ', '[', ' ', '2'] = .const ['1', ' ', '[', ' ', '2'] := rfl

/-- **Valid strings become the parsed sequence.** -/
theorem valid_string_is_sequence (s : List Char) (r : List Tree) (h : parse s = .ok r) :
    patternOf s = .seq r := by
  simp [patternOf, h]

example : patternOf ['1', ' ', '[', '2', ']'] = .seq [.leaf (.int 1), .group [.leaf (.int 2)]] := rfl

/-- **A nested group contributes one element per cycle of its parent.**  Take a sequence standing at the start
of a cycle (`pos = 0`) whose elements — scalars or nested sequences in *any* state — are live (no empty
sequence inside).  During the `w = items.length` calls of `next()` that make up one cycle, the results are, in
order, one result of each element (`x.next.out`), and afterwards every element has been advanced by exactly
one `next()` (`x.next.st`) while the parent is back at `pos = 0`.  So a nested group gives exactly one of its
own elements to each cycle of its parent, at every nesting depth (the elements' `next` is the same function). -/
theorem group_one_element_per_cycle (items : List PS) (hne : items ≠ [])
    (hl : ∀ x ∈ items, x.live = true) :
    PS.run items.length (.seq items 0) = items.map (fun x => x.next.out) ∧
    PS.after items.length (.seq items 0) = .seq (items.map (fun x => x.next.st)) 0 :=
  PS.full_cycle items hne hl

example : PS.run 2 (.seq [.leaf (.int 1), .seq [.leaf (.int 10), .leaf (.int 11)] 1] 0) =
    [.val (.int 1), .val (.int 11)] := rfl
example : PS.after 2 (.seq [.leaf (.int 1), .seq [.leaf (.int 10), .leaf (.int 11)] 1] 0) =
    .seq [.leaf (.int 1), .seq [.leaf (.int 10), .leaf (.int 11)] 0] 0 := rfl

/-- **Closed form of the output of a parsed sequence**, for every `n` and every nesting: the first `n` results
of `next()` on the sequence built from `ts` (no empty group) are `nthT (.group ts) 0 … (n-1)`, where
`nthT (.group ts) i = nthT ts[i % w] (i / w)` (`closed_form_unfold`) and `nthT (.leaf v) _ = v`. -/
theorem output_closed_form (ts : List Tree) (hne : ts ≠ []) (hfull : Tree.fullL ts = true) (n : Nat) :
    PS.run n (PS.ofTree (.group ts)) = (List.range n).map (fun i => outOf (nthT (.group ts) i)) := by
  have hf : (Tree.group ts).full = true := by
    rw [Tree.full, hfull, List.isEmpty_eq_false_iff.mpr hne]; rfl
  rw [PS.run_eq_map_outAt]
  exact List.map_congr_left fun i _ => PS.outAt_ofTree _ hf i

/-- the recursion of the closed form, spelled out -/
theorem closed_form_unfold (ts : List Tree) (hne : ts ≠ []) (n : Nat) :
    nthT (.group ts) n =
      nthT (ts[n % ts.length]'(Nat.mod_lt _ (List.length_pos_iff.mpr hne))) (n / ts.length) := by
  rw [nthT, List.isEmpty_eq_false_iff.mpr hne, if_neg Bool.false_ne_true]
  exact nthAt_eq ts _ _ _

example : PS.run 7 (PS.ofTree (.group [.leaf (.int 1), .group [.leaf (.int 10), .leaf (.int 11)]])) =
    [.val (.int 1), .val (.int 10), .val (.int 1), .val (.int 11), .val (.int 1), .val (.int 10), .val (.int 1)] := by
  decide +kernel
example : nthT (.group [.leaf (.int 1), .group [.leaf (.int 10), .leaf (.int 11)]]) 3 = some (.int 11) := by decide

end IsobarV.C20
