/-
C10 — deterministic patterns match their reference definitions: the ext2 group.

Proved here: `PFilterByKey` / `PNearestNoteInKey` element-wise in terms of the functions of the Tonal model
(`IsobarV/Tonal/Model.lean`: `pFilterByKey`, `pNearestNoteInKey`, whose own specification is C13's), `PKeyTonic`,
`PKeyScale`, `PFunc` element-wise.  `PMetropolis` block by block: `Props/C10_Metropolis.lean`.  NOT proved:
the closed forms of `PMetropolis` as ONE list function over the whole cycle (cycle of, per note,
`repeats[i]` times the note then `rests[i] + 1` rests), `PSequenceAction` (concatenation of `fn^i(list)`, `i < repeats`)
and `PPatternGeneratorAction` (endless repetition of the generated sequence): for these the file only carries
evaluated instances (`example … := by decide`); the closed forms are checked on the implementation by the independent
list-based oracles of `harness/pat_reg_ext2.py` and on the model through the model/implementation correspondence.
-/
import IsobarV.Pat.Cls.ScalarLemmas

namespace IsobarV.C10Ext2
open IsobarV.Pat

theorem keyMap_reference (f : Tonal.Key → Option Int → Option Int) (rec : Rec) (n : Nat) (p k : Pat) (st : St)
    (ns ks : List Val) (hp : recOuts rec n p = ns.map .val) (hk : recOuts rec n k = ks.map .val) :
    clsOuts (stepPoll (fun _ => [0, 1]) (pure1 (keyMapVal f))) rec n [p, k] st =
      List.zipWith (fun note key => keyMapVal f [note, key]) ns ks := by
  rw [poll2_reference _ rfl _ rec n p k st ns ks hp hk, runF_pure1, List.map_zipWith]

/-- **`PFilterByKey`**: `keyMapVal pFilterByKey` applied to the rows `[note, key]`. -/
theorem filterByKey_reference (rec : Rec) (n : Nat) (p k : Pat) (st : St) (ns ks : List Val)
    (hp : recOuts rec n p = ns.map .val) (hk : recOuts rec n k = ks.map .val) :
    clsOuts stepFilterByKey rec n [p, k] st = List.zipWith (fun note key => keyMapVal Tonal.pFilterByKey [note, key]) ns ks :=
  keyMap_reference _ rec n p k st ns ks hp hk

/-- **`PNearestNoteInKey`**: `keyMapVal pNearestNoteInKey` applied to the rows `[note, key]`. -/
theorem nearestNoteInKey_reference (rec : Rec) (n : Nat) (p k : Pat) (st : St) (ns ks : List Val)
    (hp : recOuts rec n p = ns.map .val) (hk : recOuts rec n k = ks.map .val) :
    clsOuts stepNearestNoteInKey rec n [p, k] st =
      List.zipWith (fun note key => keyMapVal Tonal.pNearestNoteInKey [note, key]) ns ks :=
  keyMap_reference _ rec n p k st ns ks hp hk

theorem keyOfVal_tup {name : String} {s : Tonal.Scale} (h : scaleByName name = some s) (t : Int) :
    keyOfVal (.tup [.int t, .str name]) = some { tonic := t, scale := s } := congrArg (Option.map _) h

theorem keyMapVal_value (f : Tonal.Key → Option Int → Option Int) (name : String) (s : Tonal.Scale)
    (h : scaleByName name = some s) (t : Int) (note : Option Int) :
    keyMapVal f [valOfNote note, .tup [.int t, .str name]] = .val (valOfNote (f { tonic := t, scale := s } note)) := by
  unfold keyMapVal
  simp only [keyOfVal_tup h]
  cases note <;> rfl

/-- One row: an integer note (or a rest) and the key `(tonic, name)` of a library scale give the Tonal model's
    `pFilterByKey` — the note when its pitch class is in the key (a rest always is), a rest otherwise. -/
theorem filterByKey_value (name : String) (s : Tonal.Scale) (h : scaleByName name = some s) (t : Int) (note : Option Int) :
    keyMapVal Tonal.pFilterByKey [valOfNote note, .tup [.int t, .str name]] =
      .val (valOfNote (Tonal.pFilterByKey { tonic := t, scale := s } note)) :=
  keyMapVal_value _ name s h t note

/-- One row of `PNearestNoteInKey`: the Tonal model's `pNearestNoteInKey` (`Key.nearest_note`). -/
theorem nearestNoteInKey_value (name : String) (s : Tonal.Scale) (h : scaleByName name = some s) (t : Int) (note : Option Int) :
    keyMapVal Tonal.pNearestNoteInKey [valOfNote note, .tup [.int t, .str name]] =
      .val (valOfNote (Tonal.pNearestNoteInKey { tonic := t, scale := s } note)) :=
  keyMapVal_value _ name s h t note

/-- **`PKeyTonic`**: element-wise the tonic of the key (a rest for a rest). -/
theorem keyTonic_reference (rec : Rec) (n : Nat) (k : Pat) (st : St) (ks : List Val) (hk : recOuts rec n k = ks.map .val) :
    clsOuts stepKeyTonic rec n [k] st = ks.map (fun key => keyTonicVal [key]) := by
  unfold stepKeyTonic
  rw [poll1_reference _ rfl _ rec n k st ks hk, runF_pure1, List.map_map]
  rfl

/-- **`PKeyScale`**: element-wise the scale of the key. -/
theorem keyScale_reference (rec : Rec) (n : Nat) (k : Pat) (st : St) (ks : List Val) (hk : recOuts rec n k = ks.map .val) :
    clsOuts stepKeyScale rec n [k] st = ks.map (fun key => keyScaleVal [key]) := by
  unfold stepKeyScale
  rw [poll1_reference _ rfl _ rec n k st ks hk, runF_pure1, List.map_map]
  rfl

theorem keyTonicVal_key (name : String) (s : Tonal.Scale) (h : scaleByName name = some s) (t : Int) :
    keyTonicVal [.tup [.int t, .str name]] = .val (.int t) ∧ keyScaleVal [.tup [.int t, .str name]] = .val (.str name) := by
  unfold keyTonicVal keyScaleVal
  simp only [keyOfVal_tup h, and_self]

/-- **`PFunc`**: element-wise the value returned by the function resolved at that step (own state never changes). -/
theorem func_reference (rec : Rec) (n : Nat) (f : Pat) (st : St) (fs : List Val) (hf : recOuts rec n f = fs.map .val) :
    clsOuts stepFunc rec n [f] st = runF funcF st (fs.map (fun x => [x])) := by
  unfold stepFunc
  exact poll1_reference _ rfl _ rec n f st fs hf

theorem funcF_const (st : St) (t : Nat) (v : Val) (h : st.buf[t]? = some v) :
    funcF st [.int (t : Int)] = { out := .val v, st := st } := by
  simp only [funcF, Int.toNat_natCast, h, Int.natCast_nonneg, if_true]

section Example
def c (i : Int) : Pat := Pat.const (.int i)
def cMajor : Pat := Pat.const (.tup [.int 0, .str "major"])
def series8 : Pat := .node .seq [c 0, c 1, c 2, c 3, c 4, c 5, c 6, Pat.const Val.none] { n0 := 1 }
/-- the docstring of `PFilterByKey` -/
example : clsOuts stepFilterByKey (stepF 5) 8 [series8, cMajor] {} =
    [.val (.int 0), .val Val.none, .val (.int 2), .val Val.none, .val (.int 4), .val (.int 5), .val Val.none, .val Val.none] := by
  decide +kernel
/-- the docstring of `PNearestNoteInKey` -/
example : clsOuts stepNearestNoteInKey (stepF 5) 8 [series8, cMajor] {} =
    [.val (.int 0), .val (.int 0), .val (.int 2), .val (.int 2), .val (.int 4), .val (.int 5), .val (.int 5), .val Val.none] := by
  decide +kernel
example : scaleByName "major" = some { semitones := [0, 2, 4, 5, 7, 9, 11], octave := 12 } := by decide +kernel
example : clsOuts stepKeyTonic (stepF 5) 2 [.node .seq [Pat.const (.tup [.int 5, .str "minor"]), cMajor] { n0 := -1 }] {} =
    [.val (.int 5), .val (.int 0)] := by decide +kernel
example : clsOuts stepKeyScale (stepF 5) 2 [.node .seq [Pat.const (.tup [.int 5, .str "minor"]), cMajor] { n0 := -1 }] {} =
    [.val (.str "minor"), .val (.str "major")] := by decide +kernel
example : clsOuts stepFunc (stepF 5) 3 [.node .seq [c 1, c 0] { n0 := -1 }] { buf := [.int 7, .flt (1/2)] } =
    [.val (.flt (1/2)), .val (.int 7), .val (.flt (1/2))] := by decide +kernel
/-- `PMetropolis([60, 62, 64], [2, 1], [0, 1])`: 60 60 · | 62 · · | 64 64 · | again (short lists extended cyclically). -/
example : clsOuts stepMetropolis (stepF 5) 10 []
    { n2 := 2, buf := [.int 60, .int 62, .int 64], buf2 := [.int 2, .int 1, .int 0, .int 1] } =
    [.val (.int 60), .val (.int 60), .val Val.none, .val (.int 62), .val Val.none, .val Val.none,
     .val (.int 64), .val (.int 64), .val Val.none, .val (.int 60)] := by decide +kernel
/-- `PSequenceAction([1, 2, 3], rotate, 3)` = `[1,2,3] ++ [2,3,1] ++ [3,1,2]`, then StopIteration. -/
example : outs 10 11 (.node .sequenceAction [c 3, c 1, c 2, c 3] { n0 := 2 }) =
    [.val (.int 1), .val (.int 2), .val (.int 3), .val (.int 2), .val (.int 3), .val (.int 1),
     .val (.int 3), .val (.int 1), .val (.int 2), .stop, .stop] := by decide +kernel
/-- `PPatternGeneratorAction(lambda: PSequence([4, 5], 2))` -/
example : clsOuts stepPga (stepF 5) 9 [] { n0 := 2, buf := [.int 4, .int 5] } =
    [.val (.int 4), .val (.int 5), .val (.int 4), .val (.int 5), .val (.int 4), .val (.int 5), .val (.int 4), .val (.int 5),
     .val (.int 4)] := by decide +kernel
end Example

end IsobarV.C10Ext2
