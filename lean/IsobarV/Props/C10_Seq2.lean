/-
C10 — deterministic library patterns match their reference definitions: the classes of
`IsobarV/Pat/Cls/Seq2.lean`.  Every theorem is parametric in the semantics `rec` of the sub-patterns (so it holds on
nested combinations) and describes the outcomes `clsOuts stepX rec n kids st` from the initial own state as a list
function of the inputs' outcomes `recOuts rec · kid`.
-/
import IsobarV.Pat.Streams
import IsobarV.Props.C10_Euclid

namespace IsobarV.C10
open IsobarV.Pat

/-- The first `n` outcomes of a pattern that yields the values `vs` and then raises StopIteration for ever. -/
def finOuts : Nat → List Val → List Out
  | 0, _ => []
  | n + 1, [] => .stop :: finOuts n []
  | n + 1, v :: vs => .val v :: finOuts n vs

theorem finOuts_eq (n : Nat) (vs : List Val) :
    finOuts n vs = (vs.map Out.val ++ List.replicate n Out.stop).take n := by
  induction n generalizing vs with
  | zero => simp [finOuts]
  | succ n ih =>
    have e (l : List Out) : (l ++ List.replicate (n + 1) Out.stop).take n = (l ++ List.replicate n Out.stop).take n := by
      rw [List.replicate_succ', ← List.append_assoc, List.take_append_of_le_length (by simp)]
    cases vs with
    | nil => simp [finOuts, List.replicate_succ, ih]
    | cons v vs => simp [finOuts, ih, e]

theorem finOuts_nil (n : Nat) : finOuts n [] = List.replicate n .stop := by
  simp [finOuts_eq]

/-- A finite, sticky input: it yields exactly `xs` and then StopIteration for ever. -/
def FiniteInput (rec : Rec) (a : Pat) (xs : List Val) : Prop :=
  ∀ j, recOuts rec (xs.length + j) a = xs.map Out.val ++ List.replicate j Out.stop

/-- `list(self.input)` on an input that yields `xs` and then StopIteration. -/
theorem drainLoop_spec (rec : Rec) (xs : List Val) : ∀ (a : Pat) (acc : List Val) (f : Nat), xs.length < f →
    recOuts rec (xs.length + 1) a = xs.map Out.val ++ [Out.stop] →
    drainLoop rec f [a] acc = (.stop, [recAfter rec (xs.length + 1) a], xs.reverse ++ acc) := by
  induction xs with
  | nil =>
    intro a acc f hf h
    cases f with
    | zero => omega
    | succ f =>
      simp only [recOuts, List.map_nil, List.nil_append, List.cons.injEq] at h
      simp [drainLoop, stepKid_zero, h.1, recAfter]
  | cons x xs ih =>
    intro a acc f hf h
    cases f with
    | zero => omega
    | succ f =>
      simp only [List.length_cons, recOuts, List.map_cons, List.cons_append, List.cons.injEq] at h
      simp only [drainLoop, stepKid_zero, h.1]
      rw [List.reverse_cons, List.append_assoc]
      exact ih (rec a).p (x :: acc) f (by simpa using hf) h.2

/-- Once the input has been read the buffer is played. -/
theorem reverse_materialised (rec : Rec) (n : Nat) (kids : List Pat) (st : St) (h0 : st.n0 ≠ 0) :
    clsOuts stepReverse rec n kids st = finOuts n st.buf := by
  induction n generalizing st with
  | zero => rfl
  | succ n ih =>
    cases hb : st.buf with
    | nil =>
      simp only [clsOuts, stepReverse, if_neg h0, hb, finOuts]
      rw [ih st h0, hb]
    | cons v vs =>
      simp only [clsOuts, stepReverse, if_neg h0, hb, finOuts]
      exact congrArg _ (ih { st with buf := vs } h0)

/-- **PReverse = the input's values in reverse order**, for every finite input shorter than the loop fuel:
    `clsOuts n = take n (reverse xs ++ stop, stop, …)`. -/
theorem reverse_reference (rec : Rec) (a : Pat) (st : St) (xs : List Val) (n : Nat) (h0 : st.n0 = 0)
    (hlen : xs.length < LOOPFUEL) (hin : recOuts rec (xs.length + 1) a = xs.map Out.val ++ [Out.stop]) :
    clsOuts stepReverse rec n [a] st = (xs.reverse.map Out.val ++ List.replicate n Out.stop).take n := by
  -- the first step reads the input and then does what every later step does
  have e : stepReverse rec [a] st =
      stepReverse rec [recAfter rec (xs.length + 1) a] { st with n0 := 1, buf := xs.reverse } := by
    simp only [stepReverse, if_pos h0, drainLoop_spec rec xs a [] LOOPFUEL hlen hin, List.append_nil]
    cases xs.reverse <;> rfl
  rw [← finOuts_eq, clsOuts_congr e n, reverse_materialised rec n _ _ Int.one_ne_zero]

example : clsOuts stepReverse (stepF 5) 5 [.node .seq [Pat.const (.int 1), Pat.const Val.none, Pat.const (.int 3)] { n0 := 1 }] {} =
    [.val (.int 3), .val Val.none, .val (.int 1), .stop, .stop] := by decide +kernel

/-- A class that passes on a finite input `xs` (`R i` = the state after `i` values), then pads it with `p` rests
    (`S j` = the state after `j` of them) and then stops. -/
theorem pad_run {step : ClsStep} {rec : Rec} {a : Pat} {st : St} {xs : List Val} (R S : Nat → St) (p : Nat)
    (hin : FiniteInput rec a xs) (h0 : R 0 = st) (hRS : R xs.length = S 0)
    (hread : ∀ i a x, (rec a).out = .val x → step rec [a] (R i) = ⟨.val x, [(rec a).p], R (i + 1)⟩)
    (hrest : ∀ j < p, ∀ a, (rec a).out = .stop → step rec [a] (S j) = ⟨.val Val.none, [(rec a).p], S (j + 1)⟩)
    (hstop : ∀ a, (rec a).out = .stop → step rec [a] (S p) = ⟨.stop, [(rec a).p], S p⟩) (n : Nat) :
    clsOuts step rec n [a] st =
      ((xs ++ List.replicate p Val.none).map Out.val ++ List.replicate n Out.stop).take n := by
  -- the exhausted input, polled `j` times more
  have hs (j : Nat) : (rec (recAfter rec j (recAfter rec xs.length a))).out = .stop :=
    (recOuts_snoc (((dead_after hin (j + 1)).2).trans List.replicate_succ')).2
  have hrun := run_read R xs hread a (dead_after hin 0).1
  rw [h0, hRS] at hrun
  have hrun := hrun.append
    (Run.vals (fun j => [recAfter rec j (recAfter rec xs.length a)]) S (List.replicate p Val.none) List.length_replicate
      fun j x hx => by
        obtain ⟨hj, rfl⟩ : j < p ∧ Val.none = x := by simpa [List.getElem?_replicate] using hx
        rw [recAfter_succ_last]
        exact hrest j hj _ (hs j))
  rw [← List.map_append] at hrun
  refine stops_after_run hrun (fun m => clsOuts_const (fun kids st' => st' = S p ∧
    ∃ j, kids = [recAfter rec j (recAfter rec xs.length a)]) ?_ m _ _ ⟨rfl, p, rfl⟩) n
  rintro _ _ ⟨rfl, j, rfl⟩
  rw [hstop _ (hs j)]
  exact ⟨rfl, rfl, j + 1, by rw [recAfter_succ_last]⟩

/-- **PPad = the input followed by rests up to `length`** (never truncated), for a finite input:
    `clsOuts n = take n (xs ++ [None] * (length − len xs) ++ stop, stop, …)`. -/
theorem pad_reference (rec : Rec) (a : Pat) (st : St) (xs : List Val) (n : Nat) (hc : st.n1 = 0)
    (hin : FiniteInput rec a xs) :
    clsOuts stepPad rec n [a] st =
      ((xs ++ List.replicate (st.n0.toNat - xs.length) Val.none).map Out.val ++ List.replicate n Out.stop).take n := by
  have hend : st.n0 ≤ ((xs.length + (st.n0.toNat - xs.length) : Nat) : Int) := by omega
  refine pad_run (fun i => { st with n1 := (i : Int) }) (fun j => { st with n1 := ((xs.length + j : Nat) : Int) }) _ hin
    (by rw [show ((0 : Nat) : Int) = st.n1 from hc.symm]) rfl ?_ ?_ ?_ n
  · intro i a x hx
    simp only [stepPad, stepKid_zero, hx]
    rfl
  · intro j hj a hs
    have : ¬ ((xs.length + j : Nat) : Int) ≥ st.n0 := Int.not_le.mpr (Int.lt_toNat.mp (Nat.add_lt_of_lt_sub' hj))
    simp only [stepPad, stepKid_zero, hs, if_neg this]
    rfl
  · intro a hs
    simp only [stepPad, stepKid_zero, hs, if_pos hend]

/-- While the input yields values (e.g. an infinite input) PPad passes them on unchanged. -/
theorem pad_reference_infinite (rec : Rec) (n : Nat) : ∀ (a : Pat) (st : St) (xs : List Val),
    recOuts rec n a = xs.map Out.val → clsOuts stepPad rec n [a] st = xs.map Out.val := by
  intro a st xs h
  obtain rfl := (vals_length h).symm
  have := (run_read (step := stepPad) (fun i => { st with n1 := st.n1 + i }) xs (fun i a x hx => by
    simp only [stepPad, stepKid_zero, hx, Int.add_assoc]; rfl) a h).outs
  rwa [List.length_map, show ({ st with n1 := st.n1 + ((0 : Nat) : Int) } : St) = st by simp] at this

example : clsOuts stepPad (stepF 5) 6 [.node .seq [Pat.const (.int 1), Pat.const (.int 2)] { n0 := 1 }] { n0 := 4 } =
    [.val (.int 1), .val (.int 2), .val Val.none, .val Val.none, .stop, .stop] := by decide +kernel

/-- On an exhausted input: stop if `padcount >= minimum_pad and count % multiple == 0`, else one more rest. -/
theorem stepPadToMultiple_stop (rec : Rec) (a : Pat) (st : St) (h : (rec a).out = .stop) (h0 : st.n0 ≠ 0) :
    stepPadToMultiple rec [a] st =
      if st.n3 ≥ st.n1 ∧ st.n2 % st.n0 = 0 then { out := .stop, kids := [(rec a).p], st := st }
      else { out := .val Val.none, kids := [(rec a).p], st := { st with n2 := st.n2 + 1, n3 := st.n3 + 1 } } := by
  simp only [stepPadToMultiple, stepKid_zero, h, if_neg h0]
  by_cases h1 : st.n3 ≥ st.n1 <;> by_cases h2 : st.n2 % st.n0 = 0 <;> simp only [h1, h2, and_self, and_false, false_and, if_true, if_false]

/-- **PPadToMultiple = the input followed by the FEWEST rests, at least `minimum_pad`, that make the length a
    multiple of `multiple`**: for a finite input `xs` and the least `p ≥ minimum_pad` with
    `(len xs + p) % multiple = 0`, `clsOuts n = take n (xs ++ [None] * p ++ stop, stop, …)`. -/
theorem padToMultiple_reference (rec : Rec) (a : Pat) (st : St) (xs : List Val) (p n : Nat)
    (hm : st.n0 ≠ 0) (hc : st.n2 = 0) (hpc : st.n3 = 0) (hin : FiniteInput rec a xs)
    (hp1 : st.n1 ≤ (p : Int)) (hp2 : ((xs.length : Int) + (p : Int)) % st.n0 = 0)
    (hmin : ∀ j : Nat, j < p → ¬ (st.n1 ≤ (j : Int) ∧ ((xs.length : Int) + (j : Int)) % st.n0 = 0)) :
    clsOuts stepPadToMultiple rec n [a] st =
      ((xs ++ List.replicate p Val.none).map Out.val ++ List.replicate n Out.stop).take n := by
  refine pad_run (fun i => { st with n2 := (i : Int) })
    (fun j => { st with n2 := (xs.length : Int) + (j : Int), n3 := (j : Int) }) p hin
    (by rw [show ((0 : Nat) : Int) = st.n2 from hc.symm])
    (by simp [hpc]) ?_ ?_ ?_ n
  · intro i a x hx
    simp only [stepPadToMultiple, stepKid_zero, hx]
    rfl
  · intro j hj a hs
    rw [stepPadToMultiple_stop rec a { st with n2 := (xs.length : Int) + (j : Int), n3 := (j : Int) } hs hm,
      if_neg (hmin j hj)]
    simp only [Int.add_assoc]
    rfl
  · intro a hs
    rw [stepPadToMultiple_stop rec a { st with n2 := (xs.length : Int) + (p : Int), n3 := (p : Int) } hs hm,
      if_pos ⟨hp1, hp2⟩]

theorem exists_least (P : Nat → Prop) : ∀ q, P q → ∃ p, P p ∧ ∀ j, j < p → ¬ P j := by
  intro q
  induction q using Nat.strongRecOn with
  | _ q ih =>
    intro h
    by_cases hex : ∃ j, j < q ∧ P j
    · obtain ⟨j, hj, hpj⟩ := hex
      exact ih j hj hpj
    · exact ⟨q, h, fun j hj hp => hex ⟨j, hj, hp⟩⟩

/-- Such a least `p` always exists for `multiple ≥ 1`. -/
theorem padToMultiple_pad_exists (L : Nat) (k : Int) (m : Int) (hm : 0 < m) :
    ∃ p : Nat, k ≤ (p : Int) ∧ ((L : Int) + (p : Int)) % m = 0 ∧
      ∀ j : Nat, j < p → ¬ (k ≤ (j : Int) ∧ ((L : Int) + (j : Int)) % m = 0) := by
  -- `q = k⁺ + (m − 1)(L + k⁺)` is admissible, since `L + q = m (L + k⁺)`; take the least admissible number
  obtain ⟨m', rfl⟩ : ∃ m' : Nat, m = (m' : Int) + 1 := ⟨(m - 1).toNat, by omega⟩
  have hq : (L : Int) + ((k.toNat + m' * (L + k.toNat) : Nat) : Int) = ((m' : Int) + 1) * ((L + k.toNat : Nat) : Int) := by
    rw [Int.add_mul, Int.one_mul, Int.natCast_add, Int.natCast_mul, Int.natCast_add]
    ac_rfl
  obtain ⟨p, ⟨a1, a2⟩, a3⟩ := exists_least (fun q : Nat => k ≤ (q : Int) ∧ ((L : Int) + (q : Int)) % ((m' : Int) + 1) = 0)
    (k.toNat + m' * (L + k.toNat))
    ⟨Int.le_trans (Int.self_le_toNat k) (Int.ofNat_le.mpr (Nat.le_add_right _ _)), by rw [hq, Int.mul_emod_right]⟩
  exact ⟨p, a1, a2, a3⟩

example : clsOuts stepPadToMultiple (stepF 5) 10
    [.node .seq [Pat.const (.int 1), Pat.const (.int 2), Pat.const (.int 3)] { n0 := 1 }] { n0 := 4, n1 := 2 } =
    [.val (.int 1), .val (.int 2), .val (.int 3), .val Val.none, .val Val.none, .val Val.none, .val Val.none, .val Val.none,
     .stop, .stop] := by decide +kernel

/-- Running number of upward zero-crossings of a trigger given as "is positive" flags: `prev` = whether the
    previous value was positive, `c` = the count so far. -/
def crossings (prev : Bool) (c : Int) : List Bool → List Int
  | [] => []
  | p :: ps => (if p && !prev then c + 1 else c) :: crossings p (if p && !prev then c + 1 else c) ps

/-- Closed form: the `i`-th output is the number of positions `j ≤ i` at which the trigger is positive and its
    predecessor (initially: not positive) is not. -/
theorem crossings_closed_form (ps : List Bool) : ∀ (prev : Bool) (c : Int) (i : Nat), i < ps.length →
    (crossings prev c ps)[i]? =
      some (c + (((List.zipWith (fun p q => p && !q) ps (prev :: ps)).take (i + 1)).count true : Nat)) := by
  induction ps with
  | nil => intro prev c i hi; simp at hi
  | cons p ps ih =>
    intro prev c i hi
    cases i with
    | zero =>
      simp only [crossings, List.zipWith_cons_cons, List.take_succ_cons, List.take_zero, List.getElem?_cons_zero]
      cases h : (p && !prev) <;> simp
    | succ i =>
      simp only [crossings, List.zipWith_cons_cons, List.take_succ_cons, List.getElem?_cons_succ]
      rw [ih p _ i (by simpa using hi)]
      cases h : (p && !prev) <;> simp <;> omega

theorem counter_general (rec : Rec) (n : Nat) (a : Pat) (st : St) (xs : List Val) (ps : List Bool)
    (h : recOuts rec n a = xs.map Out.val) (hp : xs.map gtZero = ps.map some) :
    clsOuts stepCounter rec n [a] st = (crossings (decide (st.n1 ≠ 0)) st.n0 ps).map (fun c => Out.val (.int c)) := by
  obtain rfl := (vals_length h).symm
  induction xs generalizing a st ps with
  | nil =>
    cases ps with
    | nil => rfl
    | cons _ _ => nomatch hp
  | cons x xs ih =>
    cases ps with
    | nil => nomatch hp
    | cons b ps =>
      simp only [List.length_cons, recOuts, List.map_cons, List.cons.injEq] at h hp
      simp only [List.length_cons, clsOuts, stepCounter, stepKid_zero, h.1, hp.1, crossings]
      cases b with
      | false => simpa using ih _ { st with n1 := 0 } ps hp.2 h.2
      | true =>
        by_cases h1 : st.n1 = 0
        · simpa [h1] using ih _ { st with n0 := st.n0 + 1, n1 := 1 } ps hp.2 h.2
        · simpa [h1] using ih _ st ps hp.2 h.2

/-- **PCounter = the running number of upward zero-crossings of its trigger**: for trigger values `xs` (numbers)
    with positivity flags `ps`, the outputs are `crossings false 0 ps` (closed form: `crossings_closed_form`). -/
theorem counter_reference (rec : Rec) (n : Nat) (a : Pat) (st : St) (xs : List Val) (ps : List Bool)
    (h0 : st.n0 = 0) (h1 : st.n1 = 0) (hin : recOuts rec n a = xs.map Out.val) (hp : xs.map gtZero = ps.map some) :
    clsOuts stepCounter rec n [a] st = (crossings false 0 ps).map (fun c => Out.val (.int c)) := by
  rw [counter_general rec n a st xs ps hin hp, h0, h1]; rfl

example : clsOuts stepCounter (stepF 5) 6
    [.node .seq [Pat.const (.int 1), Pat.const (.int 0), Pat.const (.flt 2), Pat.const (.int 3), Pat.const (.int (-1)), Pat.const (.int 1)] { n0 := 1 }] {} =
    [.val (.int 1), .val (.int 1), .val (.int 2), .val (.int 2), .val (.int 2), .val (.int 3)] := by decide +kernel

/-- Reference definition of `PReset`: `k` = number of values taken from the pattern since it was last (re)started;
    a positive trigger restarts it; the output is the `(k+1)`-th outcome of the freshly started pattern `p0`. -/
def presetRef (rec : Rec) (p0 : Pat) : Nat → List Bool → List Out
  | _, [] => []
  | k, b :: bs =>
    (rec (recAfter rec (if b then 0 else k) p0)).out :: presetRef rec p0 ((if b then 0 else k) + 1) bs

/-- **PReset = the pattern restarted at every positive trigger**: whenever `reset()` rewinds the pattern to its
    initial state `p0` (which is C04, `reset_rewinds`), the `i`-th output is outcome number `i − (index of the last
    positive trigger ≤ i)` of `p0`.  `ts` = trigger values, `bs` = "is not None and > 0". -/
theorem preset_reference (rs : Pat → Pat) (rec : Rec) (p0 : Pat) (hreset : ∀ k, rs (recAfter rec k p0) = p0) (n : Nat) :
    ∀ (k : Nat) (t : Pat) (st : St) (ts : List Val) (bs : List Bool),
      recOuts rec n t = ts.map Out.val → ts.map trigPos = bs.map some →
      clsOuts (stepResetW rs) rec n [recAfter rec k p0, t] st = presetRef rec p0 k bs := by
  intro k t st ts bs h hp
  obtain rfl := (vals_length h).symm
  induction ts generalizing k t bs with
  | nil =>
    cases bs with
    | nil => rfl
    | cons _ _ => nomatch hp
  | cons x ts ih =>
    cases bs with
    | nil => nomatch hp
    | cons b bs =>
      simp only [List.length_cons, recOuts, List.map_cons, List.cons.injEq] at h hp
      simp only [List.length_cons, clsOuts, stepResetW, stepKid_one, h.1, hp.1, presetRef]
      cases b with
      | true =>
        simp only [resetKid, List.getElem?_cons_zero, List.set_cons_zero, hreset k, stepKid_zero, if_true]
        exact congrArg _ (ih 1 _ bs hp.2 h.2)
      | false =>
        simp only [stepKid_zero, Bool.false_eq_true, if_false]
        rw [← recAfter_succ_last rec k p0, ih (k + 1) _ bs hp.2 h.2]

/-- One step: a positive trigger resets the pattern before it is stepped, any other trigger value does not. -/
theorem preset_reference_step (rs : Pat → Pat) (rec : Rec) (p t : Pat) (st : St) (tv : Val) (ht : (rec t).out = .val tv) :
    (trigPos tv = some true → (stepResetW rs rec [p, t] st).out = (rec (rs p)).out) ∧
    (trigPos tv = some false → (stepResetW rs rec [p, t] st).out = (rec p).out) := by
  constructor <;> intro h <;> simp [stepResetW, stepKid, resetKid, ht, h]

-- PReset(PSequence([1, 2, 3]), PSequence([0, 0, 1, 0, None, 2])): restarted at the 3rd and 6th step
example : clsOuts (stepResetW reset) (stepF 5) 6
    [.node .seq [Pat.const (.int 1), Pat.const (.int 2), Pat.const (.int 3)] { n0 := -1 },
     .node .seq [Pat.const (.int 0), Pat.const (.int 0), Pat.const (.int 1), Pat.const (.int 0), Pat.const Val.none, Pat.const (.int 2)] { n0 := 1 }] {} =
    [.val (.int 1), .val (.int 2), .val (.int 1), .val (.int 2), .val (.int 3), .val (.int 1)] := by decide +kernel

section SkipLoop
/- The `while` loops of both classes read the input until an outcome is to be kept; `ref` is the reference function
   on outcome lists, which drops what the loop passes over. -/
variable {rec : Rec} {loop : Nat → List Pat → Out × List Pat} {keep : Out → Bool} {ref : List Out → List Out}
  (hstep : ∀ f a, loop (f + 1) [a] = if keep (rec a).out then ((rec a).out, [(rec a).p]) else loop f [(rec a).p])
  (hnil : ref [] = []) (hskip : ∀ o os, keep o = false → ref (o :: os) = ref os)
include hstep hnil hskip

/-- The loop's result does not depend on the fuel once an outcome to be kept lies within reach. -/
theorem skipLoop_fuel (m : Nat) : ∀ (a : Pat) (f g : Nat), m < f → m < g → ref (recOuts rec m a) ≠ [] →
    loop f [a] = loop g [a] := by
  induction m with
  | zero => intro a f g _ _ h; exact absurd hnil h
  | succ m ih =>
    intro a f g hf hg h
    obtain ⟨f, rfl⟩ := Nat.exists_eq_succ_of_ne_zero (Nat.ne_of_gt (Nat.zero_lt_of_lt hf))
    obtain ⟨g, rfl⟩ := Nat.exists_eq_succ_of_ne_zero (Nat.ne_of_gt (Nat.zero_lt_of_lt hg))
    rw [hstep, hstep]
    cases hk : keep (rec a).out with
    | true => rfl
    | false =>
      rw [recOuts, hskip _ _ hk] at h
      exact ih _ f g (Nat.lt_of_succ_lt_succ hf) (Nat.lt_of_succ_lt_succ hg) h

/-- An outcome passed over does not show in the result, as long as one to be kept lies within reach. -/
theorem skipLoop_skip {m : Nat} {a : Pat} (hm : m + 1 < LOOPFUEL) (hk : keep (rec a).out = false)
    (h : ref (recOuts rec m (rec a).p) ≠ []) : loop LOOPFUEL [a] = loop LOOPFUEL [(rec a).p] := by
  have e : loop LOOPFUEL [a] = loop 99999 [(rec a).p] := by rw [show LOOPFUEL = 99999 + 1 from rfl, hstep, hk]; rfl
  exact e.trans (skipLoop_fuel hstep hnil hskip m _ _ _ (Nat.lt_of_succ_lt_succ hm) (Nat.lt_of_succ_lt hm) h)

end SkipLoop

/-- A state whose next step is that of another one whenever a step is taken at all. -/
theorem clsOuts_length_congr {step : ClsStep} {rec : Rec} {kids kids' : List Pat} {st st' : St} (F : List Out)
    (h : F ≠ [] → step rec kids st = step rec kids' st') :
    clsOuts step rec F.length kids st = clsOuts step rec F.length kids' st' := by
  cases F with
  | nil => rfl
  | cons o os => exact clsOuts_congr (h (List.cons_ne_nil o os)) _

def notRest (o : Out) : Bool := o != Out.val Val.none

theorem collapseLoop_step (rec : Rec) (f : Nat) (a : Pat) :
    collapseLoop rec (f + 1) [a] =
      if notRest (rec a).out then ((rec a).out, [(rec a).p]) else collapseLoop rec f [(rec a).p] := by
  simp only [collapseLoop, stepKid_zero]
  split
  · rename_i h; simp [h, notRest, Val.none]
  · rename_i h
    have : notRest (rec a).out = true := bne_iff_ne.mpr fun e => h (by simpa [Val.none] using e)
    rw [if_pos this]

/-- **PCollapse = the input without its rests** (StopIteration and exceptions pass through), for finite and
    infinite inputs alike: the outcomes are the first `m` outcomes of the input with the rests removed
    (`m` below the loop fuel). -/
theorem collapse_reference (rec : Rec) (m : Nat) : ∀ (a : Pat) (st : St), m < LOOPFUEL →
    clsOuts stepCollapse rec ((recOuts rec m a).filter notRest).length [a] st = (recOuts rec m a).filter notRest := by
  induction m with
  | zero => intros; rfl
  | succ m ih =>
    intro a st hm
    rw [recOuts]
    cases hk : notRest (rec a).out with
    | true =>
      have hloop : collapseLoop rec LOOPFUEL [a] = ((rec a).out, [(rec a).p]) :=
        (collapseLoop_step rec 99999 a).trans (if_pos hk)
      rw [List.filter_cons_of_pos hk]
      simp only [List.length_cons, clsOuts, stepCollapse, hloop]
      rw [ih _ st (Nat.lt_of_succ_lt hm)]
    | false =>
      rw [List.filter_cons_of_neg (by simp [hk])]
      refine (clsOuts_length_congr _ fun hne => ?_).trans (ih (rec a).p st (Nat.lt_of_succ_lt hm))
      simp only [stepCollapse, skipLoop_skip (collapseLoop_step rec) List.filter_nil
        (fun o os ho => List.filter_cons_of_neg (by simp [ho])) hm hk hne]

/-- On a finite input: the non-rest values, then StopIteration. -/
theorem collapse_reference_finite (rec : Rec) (a : Pat) (st : St) (xs : List Val) (hlen : xs.length + 1 < LOOPFUEL)
    (hin : recOuts rec (xs.length + 1) a = xs.map Out.val ++ [Out.stop]) :
    clsOuts stepCollapse rec ((xs.filter (fun v => v != Val.none)).length + 1) [a] st =
      (xs.filter (fun v => v != Val.none)).map Out.val ++ [Out.stop] := by
  have e : (xs.map Out.val ++ [Out.stop]).filter notRest = (xs.filter (fun v => v != Val.none)).map Out.val ++ [Out.stop] := by
    rw [List.filter_append, List.filter_map]
    congr 3
    funext v
    exact Bool.eq_iff_iff.mpr (by simp [notRest])
  have h := collapse_reference rec (xs.length + 1) a st hlen
  rw [hin, e] at h
  simpa using h

example : clsOuts stepCollapse (stepF 5) 4
    [.node .seq [Pat.const Val.none, Pat.const (.int 1), Pat.const Val.none, Pat.const Val.none, Pat.const (.int 2), Pat.const Val.none] { n0 := 1 }] {} =
    [.val (.int 1), .val (.int 2), .stop, .stop] := by decide +kernel

/-- Reference definition: drop every value equal (Python `==`) to the last value kept (initially, and also always,
    `sys.maxsize`); StopIteration and exceptions pass through and do not count as values. -/
def noRepRef (prev : Val) : List Out → List Out
  | [] => []
  | .val v :: os => if v.pyEq prev || v.pyEq (.int MAXSIZE) then noRepRef prev os else .val v :: noRepRef v os
  | .stop :: os => .stop :: noRepRef prev os
  | .err e :: os => .err e :: noRepRef prev os

/-- What PNoRepeats' loop stops at: anything but a repetition of `prev` or `sys.maxsize`. -/
def fresh (prev : Val) : Out → Bool
  | .val v => !(v.pyEq prev || v.pyEq (.int MAXSIZE))
  | _ => true

theorem noRepLoop_step (rec : Rec) (prev : Val) (f : Nat) (a : Pat) :
    noRepLoop rec prev (f + 1) [a] =
      if fresh prev (rec a).out then ((rec a).out, [(rec a).p]) else noRepLoop rec prev f [(rec a).p] := by
  simp only [noRepLoop, stepKid_zero]
  cases (rec a).out with
  | val v => cases h : (v.pyEq prev || v.pyEq (.int MAXSIZE)) <;> simp [fresh, h]
  | stop => rfl
  | err e => rfl

theorem noRepRef_skip (prev : Val) (o : Out) (os : List Out) (h : fresh prev o = false) :
    noRepRef prev (o :: os) = noRepRef prev os := by
  cases o with
  | val v => simp only [noRepRef, if_pos ((Bool.not_eq_false' _).mp h)]
  | stop => cases h
  | err e => cases h

/-- **PNoRepeats = the input without immediate repetitions**, for finite and infinite inputs alike. -/
theorem noRepeats_reference (rec : Rec) (m : Nat) : ∀ (a : Pat) (st : St), m < LOOPFUEL →
    clsOuts stepNoRepeats rec (noRepRef st.v0 (recOuts rec m a)).length [a] st = noRepRef st.v0 (recOuts rec m a) := by
  induction m with
  | zero => intros; rfl
  | succ m ih =>
    intro a st hm
    rw [recOuts]
    cases hk : fresh st.v0 (rec a).out with
    | true =>
      have hloop : noRepLoop rec st.v0 LOOPFUEL [a] = ((rec a).out, [(rec a).p]) :=
        (noRepLoop_step rec st.v0 99999 a).trans (if_pos hk)
      cases ho : (rec a).out with
      | val v =>
        rw [ho] at hk hloop
        simp only [noRepRef, if_neg (Bool.not_eq.mp hk), List.length_cons, clsOuts, stepNoRepeats, hloop]
        exact congrArg _ (ih (rec a).p { st with v0 := v } (Nat.lt_of_succ_lt hm))
      | stop =>
        rw [ho] at hloop
        simp only [noRepRef, List.length_cons, clsOuts, stepNoRepeats, hloop]
        rw [ih (rec a).p st (Nat.lt_of_succ_lt hm)]
      | err e =>
        rw [ho] at hloop
        simp only [noRepRef, List.length_cons, clsOuts, stepNoRepeats, hloop]
        rw [ih (rec a).p st (Nat.lt_of_succ_lt hm)]
    | false =>
      rw [noRepRef_skip _ _ _ hk]
      refine (clsOuts_length_congr _ fun hne => ?_).trans (ih (rec a).p st (Nat.lt_of_succ_lt hm))
      simp only [stepNoRepeats, skipLoop_skip (noRepLoop_step rec st.v0) rfl (noRepRef_skip st.v0) hm hk hne]

example : clsOuts stepNoRepeats (stepF 5) 6
    [.node .seq [Pat.const (.int 1), Pat.const (.int 1), Pat.const (.flt 2), Pat.const (.int 2), Pat.const Val.none, Pat.const Val.none, Pat.const (.int 1)] { n0 := 1 }]
    { v0 := .int MAXSIZE } =
    [.val (.int 1), .val (.flt 2), .val Val.none, .val (.int 1), .stop, .stop] := by decide +kernel

theorem picks_length {α : Type} (l : List α) : ∀ p ∈ picks l, p.2.length + 1 = l.length := by
  induction l with
  | nil => intro p hp; simp [picks] at hp
  | cons x xs ih =>
    intro p hp
    simp only [picks, List.mem_cons, List.mem_map] at hp
    rcases hp with rfl | ⟨p', hp', rfl⟩
    · rfl
    · simp only [List.length_cons]; rw [← ih p' hp']

theorem permsF_length {α : Type} (n : Nat) : ∀ l : List α, l.length = n → ∀ q ∈ permsF n l, q.length = n := by
  induction n with
  | zero => intro l _ q hq; simp [permsF] at hq; simp [hq]
  | succ n ih =>
    intro l hl q hq
    simp only [permsF, List.mem_flatMap, List.mem_map] at hq
    obtain ⟨p, hp, q', hq', rfl⟩ := hq
    have := picks_length l p hp
    simp only [List.length_cons]
    rw [ih p.2 (by omega) q' hq']

theorem permsF_ne_nil {α : Type} : ∀ (k : Nat) (l : List α), l.length = k → permsF k l ≠ []
  | 0, _, _ => by simp [permsF]
  | k + 1, [], h => by simp at h
  | k + 1, x :: xs, h => by
    simp only [permsF, picks, List.flatMap_cons]
    intro hnil
    exact permsF_ne_nil k xs (by simpa using h) (by simpa using (List.append_eq_nil_iff.mp hnil).1)

theorem perms_length {α : Type} (l : List α) : ∀ q ∈ perms l, q.length = l.length :=
  permsF_length l.length l rfl

/-- PPermut playing the block `vs`: arrangement `i`, `j` of its values played. -/
def pmSt (st : St) (vs : List Val) (i j : Nat) : St := { st with buf := vs, n3 := 1, n1 := i, n2 := j }

section Permut
variable {rec : Rec} {kids : List Pat} {st : St} {vs q : List Val} {i j : Nat} {x : Val}

theorem permut_in (hq : (perms vs)[i]? = some q) (hx : q[j]? = some x) :
    stepPermut rec kids (pmSt st vs i j) = ⟨.val x, kids, pmSt st vs i (j + 1)⟩ := by
  have hi : i < (perms vs).length := (List.getElem?_eq_some_iff.mp hq).1
  have hj : j < vs.length := perms_length vs q (List.mem_of_getElem? hq) ▸ (List.getElem?_eq_some_iff.mp hx).1
  have c1 : ¬ (i : Int) > ((perms vs).length : Int) := by omega
  have c2 : ¬ (j : Int) ≥ (vs.length : Int) := by omega
  have c3 : ¬ (i : Int) ≥ ((perms vs).length : Int) := by omega
  simp [stepPermut, permEmit, permCount, permAt, pmSt, c1, c2, c3, hq, hx]

/-- At the end of an arrangement the next one is begun. -/
theorem permut_wrap (hq : (perms vs)[i + 1]? = some q) (hx : q[0]? = some x) :
    stepPermut rec kids (pmSt st vs i vs.length) = ⟨.val x, kids, pmSt st vs (i + 1) 1⟩ := by
  have hi : i + 1 < (perms vs).length := (List.getElem?_eq_some_iff.mp hq).1
  have c1 : ¬ (i : Int) > ((perms vs).length : Int) := by omega
  have c3 : ¬ (i : Int) + 1 ≥ ((perms vs).length : Int) := by omega
  simp [stepPermut, permEmit, permCount, permAt, pmSt, c1, c3, hq, hx]

/-- After the last arrangement: `permindex = len(permutations)`, for ever. -/
theorem permut_last (hi : i + 1 = (perms vs).length) :
    stepPermut rec kids (pmSt st vs i vs.length) = ⟨.stop, kids, pmSt st vs (i + 1) 0⟩ := by
  have c1 : ¬ (i : Int) > ((perms vs).length : Int) := by omega
  have c3 : (i : Int) + 1 ≥ ((perms vs).length : Int) := by omega
  simp [stepPermut, permEmit, permCount, pmSt, c1, c3]

theorem permut_done (hv : vs ≠ []) :
    stepPermut rec kids (pmSt st vs (perms vs).length 0) = ⟨.stop, kids, pmSt st vs (perms vs).length 0⟩ := by
  simp [stepPermut, permEmit, permCount, pmSt, hv]

theorem permut_stops (hi : i + 1 = (perms vs).length) (hv : vs ≠ []) (n : Nat) :
    clsOuts stepPermut rec n kids (pmSt st vs i vs.length) = List.replicate n .stop := by
  have hd := permut_done (rec := rec) (kids := kids) (st := st) hv
  rw [← hi] at hd
  exact (clsOuts_congr ((permut_last hi).trans hd.symm) n).trans (clsOuts_fixed hd n)

/-- One arrangement, begun by a step from whatever state came before. -/
theorem permut_arrangement (hv : vs ≠ []) (hq : (perms vs)[i]? = some q) {kids₀ : List Pat} {st₀ : St}
    (hfirst : ∀ c, q[0]? = some c → stepPermut rec kids₀ st₀ = ⟨.val c, kids, pmSt st vs i 1⟩) :
    Run stepPermut rec kids₀ st₀ (q.map .val) kids (pmSt st vs i vs.length) := by
  have hl := perms_length vs q (List.mem_of_getElem? hq)
  cases q with
  | nil => exact absurd (List.length_eq_zero_iff.mp hl.symm) hv
  | cons c t =>
    exact .cons (hfirst c rfl)
      (.walk (fun j => pmSt st vs i j) (c :: t) (List.length_pos_iff.mpr hv) hl fun _ _ hx => permut_in hq hx)

end Permut

/-- The block read at the first step: the first `c` values of the input, or all of them if it ends before. -/
theorem permBlock_spec (rec : Rec) (vs : List Val) : ∀ (a : Pat) (acc : List Val) (c : Nat),
    recOuts rec vs.length a = vs.map Out.val →
    (c = vs.length ∨ (vs.length < c ∧ (rec (recAfter rec vs.length a)).out = .stop)) →
    (permBlock rec c [a] acc).1 = Option.none ∧ (permBlock rec c [a] acc).2.2 = acc.reverse ++ vs := by
  induction vs with
  | nil =>
    intro a acc c _ hc
    rcases hc with rfl | ⟨hc, hs⟩
    · simp [permBlock]
    · obtain ⟨c, rfl⟩ := Nat.exists_eq_succ_of_ne_zero (Nat.ne_of_gt hc)
      have hs : (rec a).out = .stop := hs
      simp [permBlock, stepKid_zero, hs]
  | cons v vs ih =>
    intro a acc c h hc
    obtain ⟨h1, h2⟩ := List.cons.inj h
    obtain ⟨c, rfl⟩ : ∃ c', c = c' + 1 := by
      rcases hc with rfl | ⟨hc, _⟩
      · exact ⟨_, rfl⟩
      · exact Nat.exists_eq_succ_of_ne_zero (Nat.ne_of_gt (Nat.zero_lt_of_lt hc))
    have := ih (rec a).p (v :: acc) c h2 (by simpa [recAfter] using hc)
    simpa [permBlock, stepKid_zero, h1] using this

/-- Empty block (`count ≤ 0` or an exhausted input): StopIteration for ever. -/
theorem permut_empty {rec : Rec} {st : St} (hgt : st.n1 > permCount st) (n : Nat) (a : Pat)
    (h : st.n0.toNat = 0 ∨ ∀ j, recOuts rec j a = List.replicate j .stop) :
    clsOuts stepPermut rec n [a] st = List.replicate n .stop := by
  refine clsOuts_const (fun kids st => st.n1 > permCount st ∧ ∃ a, kids = [a] ∧
    (st.n0.toNat = 0 ∨ ∀ j, recOuts rec j a = List.replicate j .stop)) ?_ n [a] st ⟨hgt, a, rfl, h⟩
  rintro _ st ⟨hgt, a, rfl, h⟩
  by_cases hc : st.n0.toNat = 0
  · have e : stepPermut rec [a] st = ⟨.stop, [a], st⟩ := by simp [stepPermut, hgt, hc, permBlock]
    rw [e]; exact ⟨rfl, hgt, a, rfl, .inl hc⟩
  · obtain ⟨c, hc'⟩ := Nat.exists_eq_succ_of_ne_zero hc
    obtain ⟨hs, hd⟩ := dead_step (h.resolve_left hc)
    have e : stepPermut rec [a] st = ⟨.stop, [(rec a).p], st⟩ := by
      simp [stepPermut, hgt, hc', permBlock, stepKid_zero, hs]
    rw [e]; exact ⟨rfl, hgt, _, rfl, .inr hd⟩

/-- **PPermut = every arrangement of the first `count` input values, lexicographic by position
    (`itertools.permutations`), then StopIteration**: with `vs` the block read — the first `count` values of the
    input, or all of them when the (finite) input is shorter — the outcomes are
    `take n (flatten (perms vs) ++ stop, stop, …)`. -/
theorem permut_reference (rec : Rec) (a : Pat) (st : St) (vs : List Val) (n : Nat)
    (h3 : st.n3 = 0) (h1 : 0 < st.n1)
    (hin : (vs.length = st.n0.toNat ∧ recOuts rec vs.length a = vs.map Out.val ∧ (vs = [] → st.n0.toNat = 0)) ∨
           (vs.length < st.n0.toNat ∧ FiniteInput rec a vs)) :
    clsOuts stepPermut rec n [a] st = (((perms vs).flatten).map Out.val ++ List.replicate n Out.stop).take n := by
  have hgt : st.n1 > permCount st := by rw [permCount, if_pos h3]; exact h1
  by_cases hv : vs = []
  · subst hv
    rw [permut_empty hgt n a (hin.imp (fun h => h.2.2 rfl) fun h j => by simpa using h.2 j)]
    simp [perms, permsF]
  · obtain ⟨hb1, hb2⟩ := permBlock_spec rec vs a [] st.n0.toNat
      (hin.elim (fun h => h.2.1) fun h => (dead_after h.2 1).1)
      (hin.imp (fun h => h.1.symm) fun h => ⟨h.1, (List.cons.inj (dead_after h.2 1).2).1⟩)
    have hne : perms vs ≠ [] := permsF_ne_nil _ vs rfl
    obtain ⟨N, hN⟩ : ∃ N, (perms vs).length = N + 1 := Nat.exists_eq_succ_of_ne_zero (mt List.length_eq_zero_iff.mp hne)
    -- arrangement 0 begins with the step that reads the block, every other one with the step that ends the one before
    have hrun := run_flatten (step := stepPermut) (rec := rec)
      (fun | 0 => [a] | _ + 1 => (permBlock rec st.n0.toNat [a] []).2.1) (fun | 0 => st | i + 1 => pmSt st vs i vs.length)
      (perms vs) fun i q hq => by
        cases i with
        | zero =>
          refine permut_arrangement hv hq fun c hc => ?_
          cases vs with
          | nil => exact absurd rfl hv
          | cons v vs =>
            simp only [stepPermut, if_pos hgt, hb1, hb2, List.reverse_nil, List.nil_append]
            simp [permEmit, permCount, permAt, pmSt, hq, hc, hne]
        | succ i => exact permut_arrangement hv hq fun c hc => permut_wrap hq hc
    rw [hN] at hrun
    exact stops_after_run hrun (permut_stops hN.symm hv) n

example : clsOuts stepPermut (stepF 5) 8 [.node .seq [Pat.const (.int 1), Pat.const (.int 2), Pat.const (.int 3)] { n0 := -1 }]
    { n0 := 2, n1 := MAXSIZE, n2 := MAXSIZE } =
    [.val (.int 1), .val (.int 2), .val (.int 2), .val (.int 1), .stop, .stop, .stop, .stop] := by decide +kernel
example : perms [1, 2, 3] = [[1, 2, 3], [1, 3, 2], [2, 1, 3], [2, 3, 1], [3, 1, 2], [3, 2, 1]] := by decide +kernel

/-- `if self.pos >= len(sequence): self.pos = 0`: position `L` (reached after the last step, or given as
    `phase = L`) stands for position 0. -/
theorem euclid_pos {p L : Nat} (h : p ≤ L) : (if (p : Int) ≥ (L : Int) then 0 else (p : Int)) = ((p % L : Nat) : Int) := by
  rcases Nat.lt_or_eq_of_le h with h | rfl
  · rw [Nat.mod_eq_of_lt h, if_neg (Int.not_le.mpr (Int.ofNat_lt.mpr h))]
  · rw [Nat.mod_self, if_pos (Int.le_refl _)]; rfl

/-- With constant parameters the object cycles through the rhythm `seq = _euclidean(length, mod)`, starting at
    position `s0` (`pos` when `pos < len`, else 0). -/
theorem euclidean_cycle (rec : Rec) (km kl : Pat) (k n : Int) (seq : List Bool)
    (hkm : (rec km).out = .val (.int k) ∧ (rec km).p = km) (hkl : (rec kl).out = .val (.int n) ∧ (rec kl).p = kl)
    (hseq : euclid n k = some seq) (m : Nat) : ∀ (s0 : Nat) (st : St), s0 < seq.length →
    (if st.n0 ≥ (seq.length : Int) then 0 else st.n0) = (s0 : Int) →
    clsOuts stepEuclidean rec m [km, kl] st =
      (List.range m).map (fun i => Out.val (onsetVal (seq.getD ((s0 + i) % seq.length) false))) := by
  intro s0 st hs0 hst
  refine clsOuts_cycle (fun j st => (if st.n0 ≥ (seq.length : Int) then 0 else st.n0) = (j : Int))
    (fun j => .val (onsetVal (seq.getD j false))) ?_ m s0 st hs0 hst
  intro j st hj hst
  have hes : euclidSeq (.int n) (.int k) = some seq := by simp [euclidSeq, Atom.toInt?, hseq]
  have hidx : pyIndex seq.length (j : Int) = some j := by simp [pyIndex, hj]
  have hget : seq[j]? = some (seq.getD j false) := by simp [List.getD, List.getElem?_eq_getElem hj]
  refine ⟨{ st with n0 := (j : Int) + 1 }, ?_, ?_⟩
  · simp only [stepEuclidean, stepKid, List.getElem?_cons_succ, List.getElem?_cons_zero, List.set_cons_succ,
      List.set_cons_zero, hkl.1, hkl.2, hkm.1, hkm.2, hes, euclidEmit, hst, hidx, hget]
  · exact euclid_pos (p := j + 1) hj

/-- **PEuclidean(k, n, phase) with `1 ≤ n ≤ 64`, `k ≤ n`, `phase ≤ n`: the output cycles, from position `phase`,
    through a rhythm of `n` steps with exactly `k` onsets (1; the other steps are rests) whose cyclic gaps are all
    `⌊n/k⌋` or `⌈n/k⌉`** — for constant parameters given as scalars, constants or any sub-pattern that keeps
    yielding `k` / `n`. -/
theorem euclidean_reference (rec : Rec) (km kl : Pat) (k n phase : Nat) (st : St)
    (h1 : 1 ≤ n) (h2 : n ≤ 64) (hk : k ≤ n) (hph : phase ≤ n) (hst : st.n0 = (phase : Int))
    (hkm : (rec km).out = .val (.int (k : Int)) ∧ (rec km).p = km)
    (hkl : (rec kl).out = .val (.int (n : Int)) ∧ (rec kl).p = kl) :
    ∃ seq : List Bool, MaxEven n k seq ∧ ∀ m,
      clsOuts stepEuclidean rec m [km, kl] st =
        (List.range m).map (fun i => Out.val (onsetVal (seq.getD ((phase + i) % n) false))) := by
  obtain ⟨seq, hs, hm⟩ := (euclid_even n k h1 h2 hk).spec
  refine ⟨seq, hm, fun m => ?_⟩
  have hlen : seq.length = n := hm.1
  have h0 : (if st.n0 ≥ (seq.length : Int) then 0 else st.n0) = ((phase % n : Nat) : Int) := by
    rw [hlen, hst]; exact euclid_pos hph
  rw [euclidean_cycle rec km kl k n seq hkm hkl hs m (phase % n) st (by rw [hlen]; exact Nat.mod_lt _ h1) h0, hlen]
  simp only [Nat.mod_add_mod]

example : clsOuts stepEuclidean (stepF 5) 10 [Pat.const (.int 3), Pat.const (.int 8)] { n0 := 2, n1 := 2 } =
    [.val Val.none, .val (.int 1), .val Val.none, .val Val.none, .val (.int 1), .val Val.none, .val (.int 1), .val Val.none,
     .val Val.none, .val (.int 1)] := by decide +kernel

theorem insertNote_perm (x : Val) (l : List Val) : (insertNote x l).Perm (x :: l) := by
  induction l with
  | nil => exact List.Perm.refl _
  | cons y ys ih =>
    simp only [insertNote]
    split
    · exact List.Perm.refl _
    · exact (List.Perm.cons y ih).trans (List.Perm.swap x y ys)

/-- `sorted(notes)` is a rearrangement of the chord … -/
theorem sortNotes_perm (l : List Val) : (sortNotes l).Perm l := by
  induction l with
  | nil => exact List.Perm.refl _
  | cons x xs ih => exact (insertNote_perm x (sortNotes xs)).trans (List.Perm.cons x ih)

theorem insertNote_sorted (x : Val) (l : List Val) (h : l.Pairwise (fun a b => valKey a ≤ valKey b)) :
    (insertNote x l).Pairwise (fun a b => valKey a ≤ valKey b) := by
  induction l with
  | nil => simp [insertNote]
  | cons y ys ih =>
    obtain ⟨h1, h2⟩ := List.pairwise_cons.mp h
    simp only [insertNote]
    split
    · rename_i hxy
      refine List.pairwise_cons.mpr ⟨?_, h⟩
      intro a ha
      rcases List.mem_cons.mp ha with rfl | ha
      · exact hxy
      · exact Rat.le_trans hxy (h1 a ha)
    · rename_i hxy
      have hyx : valKey y ≤ valKey x := Rat.le_of_lt (Rat.not_le.mp hxy)
      refine List.pairwise_cons.mpr ⟨?_, ih h2⟩
      intro a ha
      rcases List.mem_cons.mp ((insertNote_perm x ys).mem_iff.mp ha) with rfl | ha
      · exact hyx
      · exact h1 a ha

/-- … in ascending order. -/
theorem sortNotes_sorted (l : List Val) : (sortNotes l).Pairwise (fun a b => valKey a ≤ valKey b) := by
  induction l with
  | nil => simp [sortNotes]
  | cons x xs ih => exact insertNote_sorted x _ ih

/-- Number of steps of one pass: the whole index sequence for the long types, else at most one per note. -/
def arpCount (type : Int) (notes offs : Nat) : Nat := if type > 5 then offs else min offs notes

/-- The guard of `__next__` at position `j`. -/
theorem arp_cond (type : Int) (nb no j : Nat) :
    (0 ≤ (j : Int) ∧ (j : Int) < (no : Int) ∧ ((j : Int) < (nb : Int) ∨ type > 5)) ↔ j < arpCount type nb no := by
  unfold arpCount
  split <;> omega

theorem arr_get {arr : List Val} {f : Nat → Option Val} {cnt : Nat} (harr : (List.range cnt).map f = arr.map some) :
    arr.length = cnt ∧ ∀ j x, arr[j]? = some x → f j = some x := by
  have hl : arr.length = cnt := by simpa using (congrArg List.length harr).symm
  refine ⟨hl, fun j x hx => ?_⟩
  have hj : j < cnt := hl ▸ (List.getElem?_eq_some_iff.mp hx).1
  simpa [List.getElem?_range hj, hx] using congrArg (·[j]?) harr

section Arp
variable {rec : Rec} {kids : List Pat} {st : St} {offs : List Int} {arr : List Val} {j : Nat} {x : Val}
  (hne : st.buf.length ≠ 0) (hoffs : arpOffsets st.n0 st.buf.length (st.n1 != 0) = some offs)
  (harr : (List.range (arpCount st.n0 st.buf.length offs.length)).map (arpNote (sortNotes st.buf) offs) = arr.map some)
include hne hoffs harr

theorem arp_in (hx : arr[j]? = some x) :
    stepArpeggiator rec kids { st with n2 := (j : Int) } = ⟨.val x, kids, { st with n2 := ((j + 1 : Nat) : Int) }⟩ := by
  obtain ⟨hlen, hget⟩ := arr_get harr
  have hc := (arp_cond st.n0 st.buf.length offs.length j).mpr (hlen ▸ (List.getElem?_eq_some_iff.mp hx).1)
  simp only [stepArpeggiator, if_neg hne, hoffs, if_pos hc, Int.toNat_natCast, hget j x hx]
  rfl

/-- After the pass, `loop = False`. -/
theorem arp_stop (hl : st.n1 = 0) :
    stepArpeggiator rec kids { st with n2 := (arr.length : Int) } = ⟨.stop, kids, { st with n2 := (arr.length : Int) }⟩ := by
  have hc := mt (arp_cond st.n0 st.buf.length offs.length arr.length).mp (by rw [(arr_get harr).1]; exact Nat.lt_irrefl _)
  have hb : (st.n1 != 0) = false := by simp [hl]
  simp only [stepArpeggiator, if_neg hne, hoffs, if_neg hc]
  simp only [hb]
  rfl

/-- After the pass, `loop = True`: `self.pos = 0; return next(self)`. -/
theorem arp_wrap (hl : st.n1 ≠ 0) (hx : arr[0]? = some x) :
    stepArpeggiator rec kids { st with n2 := (arr.length : Int) } = ⟨.val x, kids, { st with n2 := ((1 : Nat) : Int) }⟩ := by
  obtain ⟨hlen, hget⟩ := arr_get harr
  have hc := mt (arp_cond st.n0 st.buf.length offs.length arr.length).mp (by rw [hlen]; exact Nat.lt_irrefl _)
  have hb : (st.n1 != 0) = true := by simp [hl]
  simp only [stepArpeggiator, if_neg hne, hoffs, if_neg hc, hget 0 x hx]
  simp only [hb]
  rfl

end Arp

/-- **PArpeggiator plays the arrangement of its type over the sorted chord**: with `offs = restart()`'s index
    sequence for the type and `arr` the notes `sorted(chord)[offs[i]]` of one pass, the outcomes are `arr` followed
    by StopIteration (`loop = False`), or `arr` repeated for ever (`loop = True`).  (`sortNotes_perm`,
    `sortNotes_sorted`: the sorted chord; `arpeggiator_is_arrangement`: the index sequences.) -/
theorem arpeggiator_reference (rec : Rec) (kids : List Pat) (st : St) (offs : List Int) (arr : List Val) (n : Nat)
    (hne : st.buf ≠ []) (hpos : st.n2 = 0)
    (hoffs : arpOffsets st.n0 st.buf.length (st.n1 != 0) = some offs)
    (harr : (List.range (arpCount st.n0 st.buf.length offs.length)).map (arpNote (sortNotes st.buf) offs) = arr.map some) :
    (st.n1 = 0 → clsOuts stepArpeggiator rec n kids st = (arr.map Out.val ++ List.replicate n Out.stop).take n) ∧
    (st.n1 ≠ 0 → arr ≠ [] →
      clsOuts stepArpeggiator rec n kids st = (List.range n).map (fun i => Out.val (arr.getD (i % arr.length) Val.none))) := by
  have hne' : st.buf.length ≠ 0 := fun h => hne (List.length_eq_zero_iff.mp h)
  have e0 : { st with n2 := ((0 : Nat) : Int) } = st := by rw [show ((0 : Nat) : Int) = st.n2 from hpos.symm]
  refine ⟨fun hl => ?_, fun hl hane => ?_⟩
  · have hrun := Run.walk (step := stepArpeggiator) (rec := rec) (kids := kids) (fun j => { st with n2 := (j : Int) }) arr
      (Nat.zero_le _) rfl fun _ _ hx => arp_in hne' hoffs harr hx
    rw [e0] at hrun
    exact stops_after_run hrun (clsOuts_fixed (arp_stop hne' hoffs harr hl)) n
  · have hL := List.length_pos_iff.mpr hane
    have hget (j : Nat) (hj : j < arr.length) : arr[j]? = some (arr.getD j Val.none) := by
      simp [List.getD, List.getElem?_eq_getElem hj]
    -- position `arr.length` (the pass is over) stands for position 0
    have := clsOuts_cycle (step := stepArpeggiator) (rec := rec) (kids := kids)
      (fun j st' => ∃ j' ≤ arr.length, st' = { st with n2 := (j' : Int) } ∧ j' % arr.length = j)
      (fun j => .val (arr.getD j Val.none)) (by
        rintro j _ hj ⟨j', hj', rfl, rfl⟩
        by_cases hlt : j' < arr.length
        · rw [Nat.mod_eq_of_lt hlt]
          exact ⟨_, arp_in hne' hoffs harr (hget j' hlt), j' + 1, hlt, rfl, rfl⟩
        · obtain rfl : j' = arr.length := Nat.le_antisymm hj' (Nat.not_lt.mp hlt)
          rw [Nat.mod_self]
          exact ⟨_, arp_wrap hne' hoffs harr hl (hget 0 hL), 1, hL, rfl, rfl⟩)
      n 0 st hL ⟨0, Nat.zero_le _, e0.symm, Nat.zero_mod _⟩
    simpa using this

/-- The positions (in the sorted chord) played in one pass of an arpeggio type over `n` notes. -/
def arpIdx (type : Int) (n : Nat) (loop : Bool) : Option (List Nat) :=
  (arpOffsets type n loop).bind (fun offs => (offs.take (arpCount type n offs.length)).mapM (pyIndex n))

def natRange (n : Nat) : List Nat := List.range n

/-- **The arpeggiator orders are arrangements of the chord, for chords of 1..8 notes** (positions in the sorted
    chord played in one pass): UP ascends, DOWN descends, CONVERGE alternates from the outside in (lowest, highest,
    second lowest, …), DIVERGE plays every note exactly once starting from the (lower) middle, UPDOWN / DOWNUP go
    there and back without repeating the turning point (and without the final note when looping), BUILD plays the
    growing prefixes, BREAK the shrinking descents, ROOTBOUNCE returns to the root between the notes of an up-down
    sweep. -/
theorem arpeggiator_is_arrangement (n : Nat) (h8 : n ≤ 8) (h1 : 1 ≤ n) :
    (arpIdx 0 n false = some (natRange n) ∧
     arpIdx 1 n false = some (natRange n).reverse ∧
     arpIdx 2 n false = some ((natRange n).map (fun i => if i % 2 = 0 then i / 2 else n - 1 - i / 2)) ∧
     (arpIdx 3 n false).map (fun idx => idx.isPerm (natRange n)) = some true ∧
     (arpIdx 3 n false).bind List.head? = some ((n - 1) / 2)) ∧
    (arpIdx 6 n false = some (natRange n ++ (natRange n).reverse.tail) ∧
     arpIdx 7 n false = some ((natRange n).reverse ++ (natRange n).tail) ∧
     (2 ≤ n → arpIdx 6 n true = some (natRange n ++ (natRange n).reverse.tail.dropLast) ∧
              arpIdx 7 n true = some ((natRange n).reverse ++ (natRange n).tail.dropLast))) ∧
    ((2 ≤ n → arpIdx 8 n false = some ((natRange n).flatMap (fun i => natRange (i + 1))) ∧
              arpIdx 9 n false = some ((natRange n).flatMap (fun i => (natRange (n - i)).reverse))) ∧
     (3 ≤ n → arpIdx 10 n false =
       some (0 :: (((natRange n).tail.dropLast ++ (natRange n).reverse.dropLast).flatMap (fun x => [x, 0]))))) := by
  refine ⟨?_, ⟨?_, ?_, ?_⟩, ?_, ?_⟩ <;> revert n <;> decide +kernel

example : clsOuts stepArpeggiator (stepF 5) 6 [] { n0 := 2, buf := [.int 7, .int 0, .int 12, .int 4] } =
    [.val (.int 0), .val (.int 12), .val (.int 4), .val (.int 7), .stop, .stop] := by decide +kernel
example : clsOuts stepArpeggiator (stepF 5) 8 [] { n0 := 6, n1 := 1, buf := [.int 7, .int 0, .int 4] } =
    [.val (.int 0), .val (.int 4), .val (.int 7), .val (.int 4), .val (.int 0), .val (.int 4), .val (.int 7), .val (.int 4)] := by decide +kernel

/-- Inside a block with step values `sv`, `j ≥ 1` of them played (`self.value` is the last one played). -/
def ipSt (st : St) (sv : List Val) (j : Nat) : St := { st with v0 := sv.getD (j - 1) Val.none, buf := sv, n2 := j }

theorem interp_in {rec : Rec} {kids : List Pat} {st : St} {sv : List Val} {j : Nat} {x : Val} (h1 : st.n1 ≠ 0)
    (hx : sv[j]? = some x) : stepInterpolate rec kids (ipSt st sv j) = ⟨.val x, kids, ipSt st sv (j + 1)⟩ := by
  have hj : ¬ (j : Int) = (sv.length : Int) := by have := (List.getElem?_eq_some_iff.mp hx).1; omega
  simp [stepInterpolate, ipSt, h1, hj, hx]

theorem interpSkip_nonzero (rec : Rec) (f : Nat) (kp ks : Pat) (cur s : Val) (k : Int)
    (hs : (rec ks).out = .val s) (hk : pyInt s = .val (.a (.int k))) (hk0 : k ≠ 0) :
    interpSkip rec (f + 1) [kp, ks] cur = (.val (.a (.int k)), [kp, (rec ks).p], cur) := by
  simp only [interpSkip, stepKid, List.getElem?_cons_succ, List.getElem?_cons_zero, List.set_cons_succ,
    List.set_cons_zero, hs, hk]
  split
  · rename_i h; simp at h; exact absurd h hk0
  · rfl

/-- **One block**: at a block boundary, with `steps` yielding a non-zero count `k` and the input yielding `target`,
    the next `len sv` outputs are the step values `sv` of the segment, and the object is at a block boundary again,
    `self.value` being the last step value. -/
theorem interp_block (rec : Rec) (kp ks : Pat) (st : St) (s target : Val) (k : Int) (sv : List Val) (m : Nat)
    (hinit : st.n1 ≠ 0) (hpos : st.n2 = (st.buf.length : Int))
    (hs : (rec ks).out = .val s) (hk : pyInt s = .val (.a (.int k))) (hk0 : k ≠ 0) (ht : (rec kp).out = .val target)
    (hv : interpValues st.n0 st.v0 target k = (.val Val.none, sv)) (hsv : sv ≠ []) :
    clsOuts stepInterpolate rec (sv.length + m) [kp, ks] st =
      sv.map Out.val ++ clsOuts stepInterpolate rec m [(rec kp).p, (rec ks).p]
        { st with v0 := sv.getD (sv.length - 1) Val.none, buf := sv, n2 := (sv.length : Int) } := by
  cases sv with
  | nil => exact absurd rfl hsv
  | cons v tl =>
    have hstep : stepInterpolate rec [kp, ks] st = ⟨.val v, [(rec kp).p, (rec ks).p], ipSt st (v :: tl) 1⟩ := by
      simp only [stepInterpolate, if_neg hinit, if_pos hpos, show LOOPFUEL = 99999 + 1 from rfl,
        interpSkip_nonzero rec _ kp ks st.v0 s k hs hk hk0, stepKid, List.getElem?_cons_zero, List.set_cons_zero, ht, hv,
        interpEmit]
      rfl
    have := Run.cons hstep (Run.walk (ipSt st (v :: tl)) (v :: tl) (Nat.le_add_left 1 _) rfl
      fun _ _ hx => interp_in hinit hx) m
    rwa [List.length_cons, List.length_map] at this

/-- The step values of the segments between successive input values `a₀ a₁ a₂ …` with step counts `k₁ k₂ …`. -/
def interpSegs (mode : Int) : List Val → List Int → List Val
  | a :: b :: vs, k :: ks => (interpValues mode a b k).2 ++ interpSegs mode (b :: vs) ks
  | _, _ => []

/-- Every segment has a positive step count and its arithmetic is defined (numbers, for linear interpolation). -/
def SegsOK (mode : Int) : List Val → List Int → Prop
  | a :: b :: vs, k :: ks => 0 < k ∧ (interpValues mode a b k).1 = .val Val.none ∧ SegsOK mode (b :: vs) ks
  | _, _ => True

/-- Two start values that interpolate identically (linear interpolation only looks at the number). -/
def SameStart (mode : Int) (x y : Val) : Prop := ∀ t k, interpValues mode x t k = interpValues mode y t k

/-- A segment of `k ≥ 1` steps ends with a value that interpolates like its target: the target itself without
    interpolation, the float of the same number with linear interpolation (`a + (b − a)·k/k = b`). -/
theorem interp_segment (mode : Int) (hmode : mode = 0 ∨ mode = 1) (cur t : Val) (k : Int) (hk : 0 < k)
    (hok : (interpValues mode cur t k).1 = .val Val.none) :
    ∃ last, (interpValues mode cur t k).2.getLast? = some last ∧ SameStart mode last t := by
  rcases hmode with rfl | rfl
  · exact ⟨t, by simp [interpValues], fun _ _ => rfl⟩
  · cases cur with
    | tup _ => simp [interpValues] at hok
    | a x =>
      cases t with
      | tup _ => simp [interpValues] at hok
      | a y =>
        cases hx : x.toNum with
        | none => simp [interpValues, hx] at hok
        | some a =>
          cases hy : y.toNum with
          | none => simp [interpValues, hx, hy] at hok
          | some b =>
            obtain ⟨k', hk'⟩ : ∃ k' : Nat, k.toNat = k' + 1 := ⟨k.toNat - 1, by omega⟩
            have e1 : ((k' + 1 : Nat) : Rat) = ((k : Int) : Rat) := by
              rw [← hk', ← Rat.intCast_natCast, Int.toNat_of_nonneg (Int.le_of_lt hk)]
            have hk0 : ((k : Int) : Rat) ≠ 0 := fun h => Int.ne_of_gt hk (Rat.intCast_eq_zero_iff.mp h)
            refine ⟨Val.flt b.r, ?_, fun t' k' => ?_⟩
            · have : (interpValues 1 (.a x) (.a y) k).2 = linValues a.r b.r k := by simp [interpValues, hx, hy]
              rw [this, linValues, hk', List.range_succ, List.map_append, List.map_singleton, e1,
                Rat.mul_div_cancel hk0, Rat.add_comm, Rat.sub_add_cancel]
              simp
            · cases t' with
              | tup _ => rfl
              | a y' =>
                have h1 : (Atom.flt b.r).toNum = some ⟨b.r, true⟩ := rfl
                simp only [interpValues, show ((1 : Int) = 0) = False by decide, if_false, if_true]
                rw [h1, hy]
                cases y'.toNum <;> rfl

theorem interp_last_same (mode : Int) (hmode : mode = 0 ∨ mode = 1) (cur t : Val) (k : Int) (hk : 0 < k)
    (hok : (interpValues mode cur t k).1 = .val Val.none) :
    SameStart mode ((interpValues mode cur t k).2.getD ((interpValues mode cur t k).2.length - 1) Val.none) t := by
  obtain ⟨last, e, hs⟩ := interp_segment mode hmode cur t k hk hok
  rwa [List.getD_eq_getElem?_getD, ← List.getLast?_eq_getElem?, e]

theorem interp_chain (rec : Rec) (mode : Int) (hmode : mode = 0 ∨ mode = 1) : ∀ (ks : List Int) (cur : Val) (vs : List Val)
    (kp ksp : Pat) (st : St) (svals : List Val), st.n0 = mode → st.n1 ≠ 0 → st.n2 = (st.buf.length : Int) →
    SameStart mode st.v0 cur → vs.length = ks.length → recOuts rec vs.length kp = vs.map Out.val →
    recOuts rec ks.length ksp = svals.map Out.val → svals.map pyInt = ks.map (fun k => Out.val (.a (.int k))) →
    SegsOK mode (cur :: vs) ks →
    clsOuts stepInterpolate rec (interpSegs mode (cur :: vs) ks).length [kp, ksp] st =
      (interpSegs mode (cur :: vs) ks).map Out.val := by
  intro ks
  induction ks with
  | nil =>
    intro cur vs kp ksp st svals _ _ _ _ hl _ _ _ _
    cases vs with
    | nil => rfl
    | cons _ _ => simp at hl
  | cons k ks ih =>
    intro cur vs kp ksp st svals h0 h1 h2 hsame hl hp hs hk hok
    cases vs with
    | nil => simp at hl
    | cons b vs =>
      cases svals with
      | nil => simp at hk
      | cons s svals =>
        simp only [List.length_cons, recOuts, List.map_cons, List.cons.injEq] at hp hs hk
        obtain ⟨hk0, hok1, hok2⟩ := hok
        have hv : interpValues st.n0 st.v0 b k = (.val Val.none, (interpValues mode cur b k).2) := by
          rw [h0, hsame b k]
          exact Prod.ext hok1 rfl
        have hsv : (interpValues mode cur b k).2 ≠ [] := fun h => by
          obtain ⟨_, e, _⟩ := interp_segment mode hmode cur b k hk0 hok1
          rw [h] at e; cases e
        simp only [interpSegs, List.length_append, List.map_append]
        rw [interp_block rec kp ksp st s b k _ _ h1 h2 hs.1 hk.1 (Int.ne_of_gt hk0) hp.1 hv hsv]
        congr 1
        exact ih b vs (rec kp).p (rec ksp).p _ svals h0 h1 rfl (interp_last_same mode hmode cur b k hk0 hok1)
          (by simpa using hl) hp.2 hs.2 hk.2 hok2

/- Full statement (not proved in this generality): for ARBITRARY step counts — zero counts make the start value jump
   to the next input value without output (`interpSkip_zero` in C12_Seq2 is the one-iteration lemma), negative
   counts raise IndexError — the output is the concatenation of the segments.  What is proved: all step counts ≥ 1. -/

/-- **PInterpolate = the first input value, then for each further input value `aᵢ` a segment of `kᵢ` step values from
    `aᵢ₋₁` to `aᵢ`** (`kᵢ ≥ 1` resolved from `steps` once per segment): without interpolation `kᵢ − 1` copies of
    `aᵢ₋₁` and then `aᵢ`; linearly `aᵢ₋₁ + (aᵢ − aᵢ₋₁)·j/kᵢ`, `j = 1 … kᵢ` (`interpValues`, `linValues`). -/
theorem interpolate_reference_partial (rec : Rec) (kp ksp : Pat) (st : St) (v0 : Val) (vs : List Val) (ks : List Int)
    (svals : List Val) (hmode : st.n0 = 0 ∨ st.n0 = 1) (hinit : st.n1 = 0)
    (hp : recOuts rec (vs.length + 1) kp = (v0 :: vs).map Out.val) (hlen : vs.length = ks.length)
    (hs : recOuts rec ks.length ksp = svals.map Out.val)
    (hk : svals.map pyInt = ks.map (fun k => Out.val (.a (.int k)))) (hok : SegsOK st.n0 (v0 :: vs) ks) :
    clsOuts stepInterpolate rec ((interpSegs st.n0 (v0 :: vs) ks).length + 1) [kp, ksp] st =
      (v0 :: interpSegs st.n0 (v0 :: vs) ks).map Out.val := by
  simp only [recOuts, List.map_cons, List.cons.injEq] at hp
  have hstep : stepInterpolate rec [kp, ksp] st =
      ClsRes.mk (.val v0) [(rec kp).p, ksp] { st with n1 := 1, v0 := v0, buf := [v0], n2 := 1 } := by
    simp only [stepInterpolate, if_pos hinit, stepKid, List.getElem?_cons_zero, List.set_cons_zero, hp.1]
  simp only [clsOuts, hstep, List.map_cons]
  congr 1
  exact interp_chain rec st.n0 hmode ks v0 vs (rec kp).p ksp _ svals rfl (show (1 : Int) ≠ 0 by decide) rfl
    (fun _ _ => rfl) hlen hp.2 hs hk hok

/-- Closed form of a linear segment: `k` values, the `j`-th (from 0) is `a + (b − a)(j + 1)/k`. -/
theorem linValues_get (a b : Rat) (k : Int) (j : Nat) (hj : j < k.toNat) :
    (linValues a b k)[j]? = some (Val.flt (a + (b - a) * ((j + 1 : Nat) : Rat) / (k : Rat))) := by
  simp [linValues, hj]

example : clsOuts stepInterpolate (stepF 5) 8
    [.node .seq [Pat.const (.int 0), Pat.const (.int 1), Pat.const (.int 2)] { n0 := 1 },
     .node .seq [Pat.const (.int 4), Pat.const (.int 2)] { n0 := 1 }] { n0 := 1 } =
    [.val (.int 0), .val (.flt (1/4)), .val (.flt (1/2)), .val (.flt (3/4)), .val (.flt 1), .val (.flt (3/2)), .val (.flt 2), .stop] := by
  decide +kernel
example : clsOuts stepInterpolate (stepF 5) 8
    [.node .seq [Pat.const (.int 0), Pat.const (.int 1), Pat.const (.int 2)] { n0 := 1 },
     .node .seq [Pat.const (.int 4), Pat.const (.int 2)] { n0 := 1 }] { n0 := 0 } =
    [.val (.int 0), .val (.int 0), .val (.int 0), .val (.int 0), .val (.int 1), .val (.int 1), .val (.int 2), .stop] := by decide +kernel

end IsobarV.C10
