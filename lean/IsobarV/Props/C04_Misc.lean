/-
C04 — `reset()` rewinds any pattern: reset-correctness of the misc group (`PLSystem`, `PDict`, `PDictKey`, a constant
whose value is a pattern, a tuple containing patterns) and the instantiated theorem for trees that mix them with
the core classes.

`PLSystem.reset()` builds a new `LSystem` and iterates it again (`pos = 0`, `state = 0`, empty stack); `PDict`,
`PDictKey` and `PConstant` keep no state of their own: `Pattern.reset()` resets the patterns they hold — after fix 90
also the patterns inside tuples (`tupP` nodes), which is what makes a tuple an ordinary node of the tree here.
-/
import IsobarV.Props.C04
import IsobarV.Pat.Cls.MiscLemmas

namespace IsobarV.C04Misc
open IsobarV.Pat IsobarV.C04

/-- `PLSystem`: no sub-patterns; `reset()` overwrites everything a step changes. -/
theorem lsystem_ok : ClsResetOK .lsystem := .of_step fun rec kids st =>
  ⟨.of_eq (stepLsystem_kids rec kids st), stepLsystem_reset rec kids st⟩

theorem stepAll_ok {P : Pat → Prop} {rec : Rec} (hrec : RecOK P rec) (kids : List Pat) (hk : ∀ k ∈ kids, P k) :
    (∀ k ∈ (stepAll rec kids).kids, P k) ∧ (stepAll rec kids).kids.map reset = kids.map reset :=
  (stepAll_stepped rec kids).resetOK hrec hk

theorem tuple_ok (c : Cls) (hc : clsStep c = stepTuple) : ClsResetOK c := .of_stepped fun rec kids st => by
  rw [hc, (stepTuple_stepped rec kids st).2]; exact ⟨(stepTuple_stepped rec kids st).1, rfl⟩

/-- `PDict` (either constructor form: a live object is always the dict of its value patterns). -/
theorem dict_ok : ClsResetOK .dict := tuple_ok _ rfl
/-- A tuple containing patterns. -/
theorem tupP_ok : ClsResetOK .tupP := tuple_ok _ rfl

theorem dictKey_ok : ClsResetOK .dictKey := .of_step (r := id) stepDictKey_stepped

/-- `PConstant(<pattern>)`: the constant has no state; `Pattern.reset()` resets the pattern it holds. -/
theorem constP_ok : ClsResetOK .constP := .of_stepped fun _ _ _ => ⟨Stepped.refl.step 0, rfl⟩

def MiscCls (c : Cls) : Prop := c = .lsystem ∨ c = .dict ∨ c = .dictKey ∨ c = .constP ∨ c = .tupP

theorem misc_ok : ∀ c, MiscCls c ∨ CoreCls c → ClsResetOK c := by
  rintro c ((rfl | rfl | rfl | rfl | rfl) | h)
  · exact lsystem_ok
  · exact dict_ok
  · exact dictKey_ok
  · exact constP_ok
  · exact tupP_ok
  · exact core_ok c h

/-- **C04 for the misc group**: any tree built from L-systems, dicts (either constructor form), key lookups,
    constants of patterns, tuples containing patterns and the core classes, nested to any depth, is rewound by
    `reset()` after any number of steps — and so is every pattern nested inside it (equality of whole trees). -/
theorem reset_rewinds_misc (fuel k : Nat) (p0 : Pat) (hp : AllCls (fun c => MiscCls c ∨ CoreCls c) p0) (h0 : IsInit p0) :
    reset (after fuel k p0) = p0 :=
  reset_rewinds misc_ok fuel k p0 hp h0

theorem all_rewinds_misc (fuel maximum : Nat) (p0 : Pat) (hp : AllCls (fun c => MiscCls c ∨ CoreCls c) p0) (h0 : IsInit p0)
    (hok : (nextn fuel maximum p0).err = Option.none) : (all fuel maximum p0).p = p0 :=
  all_rewinds misc_ok fuel maximum p0 hp h0 hok

theorem chunkRows_mem (m : Nat) : ∀ (fuel : Nat) (items : List Pat), ∀ row ∈ chunkRows m fuel items, ∀ x ∈ row, x ∈ items := by
  intro fuel
  induction fuel with
  | zero => intro items row hr; simp [chunkRows] at hr
  | succ f ih =>
    intro items row hr x hx
    cases items with
    | nil => simp [chunkRows] at hr
    | cons y ys =>
      simp only [chunkRows, List.mem_cons] at hr
      rcases hr with rfl | hr
      · exact List.mem_of_mem_take hx
      · exact List.mem_of_mem_drop (ih _ row hr x hx)

theorem map_reset_id (ks : List Pat) (h : ∀ k ∈ ks, IsInit k) : ks.map reset = ks :=
  (List.map_congr_left h).trans (List.map_id ks)

/-- **`PDict([row₀, row₁, …])` of initial items is an initial object** (what `reset()` rewinds to is the object the
    constructor built), in either form. -/
theorem construct_isInit (kids : List Pat) (st : St) (hk : ∀ k ∈ kids, IsInit k) (hcur : st.cur = 0) :
    IsInit (construct (.node .dict kids st)) := by
  have hst : ∀ s : St, s.cur = 0 → clsReset .dict s = s := fun s h => by cases s; cases h; rfl
  simp only [IsInit, construct]
  split
  · -- every column is a one-shot sequence of items of `kids`
    have hcol : ∀ k ∈ dictColumns st.buf.length kids, IsInit k := by
      intro k hk'
      obtain ⟨j, _, rfl⟩ := List.mem_map.mp hk'
      refine (reset_node _ _ _).trans ?_
      rw [map_reset_id _ fun x hx => ?_]; rfl
      obtain ⟨row, hr, hj⟩ := List.mem_filterMap.mp hx
      exact hk x (chunkRows_mem _ _ _ row hr x (List.mem_of_getElem? hj))
    rw [reset_node, map_reset_id _ hcol, hst { st with n0 := 0 } hcur]
  · rw [reset_node, map_reset_id _ hk, hst _ hcur]

/-! Non-vacuity: an L-system inside a dict built from a list of dicts, below a key lookup; a tuple containing a
    pattern inside a sequence; consumed past exhaustion, then reset. -/
section Example
def c (i : Int) : Pat := Pat.const (.int i)
def lsys : Pat := .node .lsystem [] { v0 := .str "N[+N]-N", n0 := 2, n1 := 0 }
def rows : Pat := construct (.node .dict [c 1, lsys, c 2, c 5] { n0 := 1, buf := [.str "a", .str "b"] })
def ex : Pat := .node .dictKey [Pat.const (.str "b"), rows] { n0 := 0, buf := [.str "a", .str "b"] }
def ex2 : Pat := .node .seq [.node .tupP [.node .constP [.node .seq [c 7, c 8] { n0 := 1 }] {}, c 5] {}] { n0 := 3 }
example : IsInit ex := by unfold IsInit; rfl
example : IsInit ex2 := by unfold IsInit; rfl
example : outs 10 4 ex = [.val (.int 0), .val (.int 5), .stop, .stop] := by decide +kernel
example : reset (after 10 4 ex) = ex := by rfl
example : outs 10 4 ex2 = [.val (.tup [.int 7, .int 5]), .val (.tup [.int 8, .int 5]), .stop, .stop] ∧
    outs 10 2 (reset (after 10 4 ex2)) = [.val (.tup [.int 7, .int 5]), .val (.tup [.int 8, .int 5])] := by decide +kernel
example : outs 10 3 (after 10 3 lsys) = [.val (.int 0), .val (.int 1), .val (.int (-1))] ∧
    outs 10 2 (reset (after 10 3 lsys)) = [.val (.int 0), .val (.int 1)] := by decide +kernel
end Example

end IsobarV.C04Misc
