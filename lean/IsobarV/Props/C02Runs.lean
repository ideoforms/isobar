/-
C02 over whole runs: every note-off is sent on the first tick at or after its time, in every tick of a
multi-track run.

`C02.timely_invariant` is about one step of the per-track function; `C07.run_is_merge` shows that in a
timeline whose tracks do not call the timeline API every track follows its own trajectory, step by step
by that very function.  Together: after any number of ticks every track of the timeline is `Timely`, so
whatever the note-off phase of the next tick releases is released exactly on time
(`released_on_first_due_tick`).
-/
import IsobarV.Props.C02
import IsobarV.Props.C07Runs

namespace IsobarV.C02
open IsobarV.Sched IsobarV.C07

theorem trackNext_timely (W : World) (hWF : WorldWF W) (f : Frame) (t u : Track)
    (h : trackNext W f t = some u) : Timely f.q u := by
  unfold trackNext survivor at h
  split at h
  · cases h
    exact timely_invariant W hWF f.q (f.actions.filter f.due) t
  · cases h

theorem alone_timely (W : World) (hWF : WorldWF W) (f : Frame) (n : Nat) (t u : Track)
    (h : alone W f (n + 1) t = some u) : Timely f.q u := by
  obtain ⟨v, _, hvu⟩ := Option.bind_eq_some_iff.mp h
  exact Frame.after_q f n ▸ trackNext_timely W hWF (f.after n) v u hvu

/-- **After any number of ticks (at least one) every track of the timeline is timely** — tracks without
    action callbacks, durations of at least one unit, well-formed voices, unique identities, stop-when-done
    off; tolerant mode or a world without faults. -/
theorem all_tracks_timely (W : World) (hW : NoActions W) (hP : PosDur W) (hWF : WorldWF W) (tl : TL)
    (hnd : (tl.tracks.map Track.id).Nodup) (hmode : tl.tolerant = true ∨ Faultless W) (hs : tl.stopWhenDone = false)
    (hq : 0 < tl.q) (n : Nat) :
    ∀ t ∈ (ticks W (n + 1) tl).tracks, Timely tl.q t := by
  have _ := hq  -- not needed here: only the release tick (`every_release_on_time`) needs a positive tick length
  obtain ⟨h1, _, _⟩ := run_is_merge W hW hP tl hnd hmode hs (n + 1)
  intro t ht
  rw [h1, stateAfter_tracks] at ht
  obtain ⟨t0, _, h0⟩ := List.mem_filterMap.mp ht
  exact alone_timely W hWF (frameOf tl) n t0 t h0

/-- **Every note-off of every tick of the run is on time**: what the note-off phase of the tick that follows the
    first `n + 1` ticks releases for a track is due on exactly that track's local tick — the first tick at or
    after the note's onset + duration × gate. -/
theorem every_release_on_time (W : World) (hW : NoActions W) (hP : PosDur W) (hWF : WorldWF W) (tl : TL)
    (hnd : (tl.tracks.map Track.id).Nodup) (hmode : tl.tolerant = true ∨ Faultless W) (hs : tl.stopWhenDone = false)
    (hq : 0 < tl.q) (n : Nat) (t : Track) (ht : t ∈ (ticks W (n + 1) tl).tracks) (o : NoteOff)
    (ho : o ∈ dueOffs tl.q t) : t.cur = cdiv o.time tl.q :=
  released_on_first_due_tick tl.q hq t (all_tracks_timely W hW hP hWF tl hnd hmode hs hq n t ht) o ho

end IsobarV.C02
