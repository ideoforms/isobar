/-
C09 — stickiness of StopIteration for the classes of `IsobarV/Pat/Cls/Seq2.lean`.

`ClsSticky` (for ALL own states) holds for PReverse, PPad, PPadToMultiple, PCounter, PCollapse, PNoRepeats,
PInterpolate, PEuclidean and PArpeggiator.  PPermut is sticky on the states its code can reach (`PermutInv`,
which holds at construction / after `reset()` and is preserved by every step): the generic lifting theorem is
re-derived for trees whose nodes satisfy a per-class state invariant (`sticky_stepF_I`), and instantiated for
this group.  PReset is a selector (a trigger that fires after the pattern has ended restarts it — by design): it
ends for good when its trigger ends (`preset_trigger_sticky`), and is not in the sticky set.
-/
import IsobarV.Props.C09
import IsobarV.Pat.Cls.Seq2Lemmas

namespace IsobarV.C09
open IsobarV.Pat

theorem reverse_sticky : ClsSticky .reverse :=
  .of_absorbing (step := stepReverse) rfl (fun _ _ st => st.n0 ≠ 0 ∧ st.buf = []) (fun rec kids st => (stepReverse_spec rec kids st).1)
    (fun _ _ hs => (stepReverse_spec _ _ _).2.2 hs)
    (fun {rec kids st} h => by rw [stepReverse_drained rec kids h.1 h.2]; exact ⟨noVal_stop, h⟩)

theorem pad_sticky : ClsSticky .pad :=
  .of_input (step := stepPad) rfl (fun st => st.n1 ≥ st.n0) (fun rec kids st => (stepPad_spec rec kids st).1)
    (fun hs => (stepPad_spec _ _ _).2.2 hs) stepPad_ended

theorem padToMultiple_sticky : ClsSticky .padToMultiple :=
  .of_input (step := stepPadToMultiple) rfl (fun st => st.n3 ≥ st.n1 ∧ st.n0 ≠ 0 ∧ st.n2 % st.n0 = 0)
    (fun rec kids st => (stepPadToMultiple_spec rec kids st).1) (fun hs => (stepPadToMultiple_spec _ _ _).2.2 hs)
    stepPadToMultiple_ended

theorem counter_sticky : ClsSticky .counter :=
  .of_input (step := stepCounter) rfl (fun _ => True) (fun rec kids st => (stepCounter_spec rec kids st).1)
    (fun hs => ⟨(stepCounter_spec _ _ _).2.2 hs, trivial⟩) (fun _ => stepCounter_ended _)

theorem collapse_sticky : ClsSticky .collapse :=
  .of_lastStep (step := stepCollapse) rfl fun rec kids _ => collapseLoop_last rec LOOPFUEL kids

theorem noRepeats_sticky : ClsSticky .noRepeats :=
  .of_lastStep (step := stepNoRepeats) rfl fun rec kids st => (stepNoRepeats_spec rec kids st).1

/-- `PEuclidean` ends only with one of its pattern-valued parameters, and then for good. -/
theorem euclidean_sticky : ClsSticky .euclidean :=
  .of_absorbing (step := stepEuclidean) rfl (fun rec kids _ => DeadAt rec kids 1 ∨ DeadAt rec kids 0)
    (fun rec kids st => (stepEuclidean_spec rec kids st).1)
    (fun hrec hk hs => ((stepEuclidean_spec _ _ _).2.2.1 hs).imp (·.dead hrec hk) (·.dead hrec hk))
    (fun {rec kids st} hd =>
      have h := stepEuclidean_spec rec kids st
      ⟨h.2.2.2 (hd.imp (·.step.1) fun hd => (hd.other (j := 1) (by decide)).step.1), hd.imp (·.stepped h.1) (·.stepped h.1)⟩)

/-- `PArpeggiator` (without `loop`) ends when the arrangement has been played; nothing changes any more. -/
theorem arpeggiator_sticky : ClsSticky .arpeggiator := fun _ rec kids st hrec hk =>
  have h := stepArpeggiator_spec rec kids st
  ⟨(Stepped.of_eq h.1).sticky hrec hk, fun hs => clsOuts_fixpoint (step := stepArpeggiator) h.1 (h.2.2 hs) (.of_stop hs)⟩

/-- `PInterpolate` ends only with its input or its `steps` parameter, and then for good: it stays at a block
    boundary, where both are read again (before the first value, only the input). -/
theorem interpolate_sticky : ClsSticky .interpolate :=
  .of_absorbing (step := stepInterpolate) rfl
    (fun rec kids st => (st.n1 ≠ 0 → st.n2 = st.buf.length) ∧ (DeadAt rec kids 0 ∨ st.n1 ≠ 0 ∧ DeadAt rec kids 1))
    (fun rec kids st => (stepInterpolate_spec rec kids st).1)
    (fun {_ rec kids st} hrec hk hs => by
      obtain ⟨⟨v, hst⟩, h2, h⟩ := (stepInterpolate_spec rec kids st).2.2 hs
      rw [hst]; exact ⟨h2, h.imp (·.dead hrec hk) (.imp_right (·.dead hrec hk))⟩)
    (fun {rec kids st} ⟨h2, hd⟩ => by
      by_cases h1 : st.n1 = 0
      · obtain ⟨a, _, c, d⟩ := stepInterpolate_init (rec := rec) (kids := kids) h1
        have hd0 := (hd.resolve_right fun h => h.1 h1).step
        rw [c, d hd0.1, a]; exact ⟨hd0.1, h2, .inl hd0.2⟩
      · obtain ⟨hdead, hS, hout, _⟩ := interpSkip_spec rec LOOPFUEL kids st.v0
        rcases hout with hn | ⟨k, hk⟩
        · rw [stepInterpolate_skip_ended h1 (h2 h1) rfl hn]
          exact ⟨hn, h2, hd.imp (·.stepped hS) (.imp_right (·.stepped hS))⟩
        · have h0 := (hd.elim (·.stepped hS) fun h => absurd hk (hdead h.2.step.1 _)).step
          rw [stepInterpolate_target_ended h1 (h2 h1) rfl rfl hk h0.1]; exact ⟨h0.1, h2, .inl h0.2⟩)

/-- **`PReset` ends for good when its trigger ends.**  (When its *pattern* ends, a later positive trigger restarts
    it: `PReset` is a selector, like an array lookup, and is deliberately not in the sticky set.) -/
theorem preset_trigger_sticky (rs : Pat → Pat) (P : Pat → Prop) (rec : Rec) (kids : List Pat) (st : St)
    (hrec : RecSticky P rec) (hk : ∀ k ∈ kids, P k) (hs : (stepKid rec kids 1).1 = .stop) :
    (stepResetW rs rec kids st).out = .stop ∧
    ∀ n, ∀ o ∈ clsOuts (stepResetW rs) rec n (stepResetW rs rec kids st).kids (stepResetW rs rec kids st).st, NoVal o := by
  rw [stepResetW_noVal rs st (.of_stop hs)]
  refine ⟨hs, fun n => clsOuts_noVal (stepResetW rs) rec (fun kids _ => DeadAt rec kids 1) (fun kids st h => ?_) n _ _
    (stepKid_stop_dead hrec hk hs)⟩
  rw [stepResetW_noVal rs st h.step.1]; exact h.step

/-- The own states `PPermut`'s code can reach: not yet generated (`permutations == []`, `permindex` pending), or
    playing / finished a non-empty block (`0 ≤ permindex ≤ len(permutations)`, `0 ≤ pos`, and `pos < len(block)`
    once `permindex` has reached the end). -/
def PermutInv (st : St) : Prop :=
  (st.n3 = 0 ∧ 0 < st.n1) ∨
  (st.n3 ≠ 0 ∧ st.buf ≠ [] ∧ 0 ≤ st.n1 ∧ 0 ≤ st.n2 ∧ st.n1 ≤ permCount st ∧ (st.n1 = permCount st → st.n2 < st.buf.length))

/-- The constructor's state (and the state after `reset()`) is reachable. -/
theorem permutInv_reset (st : St) : PermutInv (resetPermut st) := by
  left; simp [resetPermut, MAXSIZE]

theorem permCount_nonneg (st : St) : 0 ≤ permCount st := by
  unfold permCount; split <;> omega

/-- Done: the next step raises StopIteration (or an operand's exception) again and stays done — the block read finds
    nothing, or `permindex` has reached the end with `pos` inside the block. -/
def PermutDone (rec : Rec) (kids : List Pat) (st : St) : Prop :=
  (st.n1 > permCount st ∧ (st.n0.toNat = 0 ∨ DeadAt rec kids 0)) ∨
  (¬ st.n1 > permCount st ∧ ¬ st.n2 ≥ st.buf.length ∧ st.n1 ≥ permCount st)

theorem permEmit_inv (rec : Rec) (kids : List Pat) (st : St)
    (h3 : st.n3 ≠ 0) (hb : st.buf ≠ []) (h1 : 0 ≤ st.n1) (h2 : 0 ≤ st.n2) (hle : st.n1 ≤ permCount st)
    (hlt2 : st.n2 < st.buf.length) :
    PermutInv (permEmit kids st).st ∧
    ((permEmit kids st).out = .stop → PermutDone rec (permEmit kids st).kids (permEmit kids st).st) := by
  simp only [permEmit]
  split
  · next hge =>
    exact ⟨.inr ⟨h3, hb, h1, h2, hle, fun _ => hlt2⟩, fun _ => .inr ⟨Int.not_lt.mpr hle, Int.not_le.mpr hlt2, hge⟩⟩
  · next hlt =>
    split
    · exact ⟨.inr ⟨h3, hb, h1, Int.le_add_one h2, hle, fun he => absurd (Int.le_of_eq he.symm) hlt⟩, Out.noConfusion⟩
    · exact ⟨.inr ⟨h3, hb, h1, h2, hle, fun _ => hlt2⟩, Out.noConfusion⟩

theorem permBlock_dead {rec : Rec} {c : Nat} {kids : List Pat} (hd : c = 0 ∨ DeadAt rec kids 0) :
    (permBlock rec c kids []).2.2 = [] := by
  cases c with
  | zero => rfl
  | succ n =>
    simp only [permBlock]
    split
    · next v hv => exact absurd hv ((hd.resolve_left n.succ_ne_zero).step.1 v)
    · rfl
    · rfl

theorem permBlock_empty {P : Pat → Prop} {rec : Rec} (hrec : RecSticky P rec) {c : Nat} {kids : List Pat}
    (hk : ∀ k ∈ kids, P k) (he : (permBlock rec c kids []).1 = Option.none) (hv : (permBlock rec c kids []).2.2 = []) :
    c = 0 ∨ DeadAt rec (permBlock rec c kids []).2.1 0 :=
  c.eq_zero_or_pos.imp_right fun hc => ((permBlock_spec rec c kids []).2 he (by rw [hv]; exact Nat.lt_add_of_pos_right hc)).dead hrec hk

theorem permut_done_step (rec : Rec) (kids : List Pat) (st : St) (h : PermutDone rec kids st) :
    NoVal (stepPermut rec kids st).out ∧ PermutDone rec (stepPermut rec kids st).kids (stepPermut rec kids st).st := by
  rcases h with ⟨hgt, hd⟩ | ⟨hng, hpos, hge⟩
  · have hd' := hd.imp id (·.stepped (permBlock_spec rec st.n0.toNat kids []).1)
    have hv := permBlock_dead hd
    simp only [stepPermut, if_pos hgt]
    split
    · exact ⟨noVal_err _, .inl ⟨hgt, hd'⟩⟩
    · split
      · exact ⟨noVal_stop, .inl ⟨hgt, hd'⟩⟩
      · next hvs => cases hv.symm.trans hvs
  · rw [stepPermut_emit rec kids hng hpos]
    simp only [permEmit, if_pos hge]
    exact ⟨noVal_stop, .inr ⟨hng, hpos, hge⟩⟩

/-- State-invariant form of stickiness. -/
def ClsStickyI (Inv : St → Prop) (c : Cls) : Prop :=
  ∀ (P : Pat → Prop) (rec : Rec) (kids : List Pat) (st : St), RecSticky P rec → (∀ k ∈ kids, P k) → Inv st →
    Inv (clsStep c rec kids st).st ∧
    (∀ k ∈ (clsStep c rec kids st).kids, P k) ∧
    ((clsStep c rec kids st).out = .stop →
      ∀ n, ∀ o ∈ clsOuts (clsStep c) rec n (clsStep c rec kids st).kids (clsStep c rec kids st).st, NoVal o)

theorem ClsSticky.toI {c : Cls} (h : ClsSticky c) : ClsStickyI (fun _ => True) c :=
  fun P rec kids st hrec hk _ => ⟨trivial, (h P rec kids st hrec hk).1, (h P rec kids st hrec hk).2⟩

theorem stepPermut_inv {P : Pat → Prop} {rec : Rec} (hrec : RecSticky P rec) {kids : List Pat} (hk : ∀ k ∈ kids, P k) {st : St}
    (hinv : PermutInv st) :
    PermutInv (stepPermut rec kids st).st ∧
    ((stepPermut rec kids st).out = .stop → PermutDone rec (stepPermut rec kids st).kids (stepPermut rec kids st).st) := by
  rcases hinv with ⟨h3, h1⟩ | ⟨h3, hb, h1, h2, hle, hfin⟩
  · have hgt : st.n1 > permCount st := by simpa [permCount, h3] using h1
    simp only [stepPermut, if_pos hgt]
    split
    · exact ⟨.inl ⟨h3, h1⟩, Out.noConfusion⟩
    · next hnone =>
      split
      · next hvs => exact ⟨.inl ⟨h3, h1⟩, fun _ => .inl ⟨hgt, permBlock_empty hrec hk hnone hvs⟩⟩
      · next v vs _ =>
        exact permEmit_inv rec _ { st with buf := v :: vs, n3 := 1, n1 := 0, n2 := 0 } Int.one_ne_zero (List.cons_ne_nil v vs)
          (Int.le_refl 0) (Int.le_refl 0) (permCount_nonneg _) (Int.natCast_pos.mpr (Nat.succ_pos _))
  · have hng : ¬ st.n1 > permCount st := Int.not_lt.mpr hle
    by_cases hpos : st.n2 ≥ st.buf.length
    · have hlt : st.n1 < permCount st := Int.lt_iff_le_and_ne.mpr ⟨hle, fun h => absurd (hfin h) (Int.not_lt.mpr hpos)⟩
      rw [stepPermut_next rec kids hng hpos]
      exact permEmit_inv rec kids { st with n1 := st.n1 + 1, n2 := 0 } h3 hb (Int.le_add_one h1) (Int.le_refl 0) hlt
        (Int.natCast_pos.mpr (List.length_pos_iff.mpr hb))
    · rw [stepPermut_emit rec kids hng hpos]
      exact permEmit_inv rec kids st h3 hb h1 h2 hle (Int.not_le.mp hpos)

/-- **`PPermut` is sticky on its reachable states, and every step keeps it inside them.** -/
theorem permut_sticky : ClsStickyI PermutInv .permut := fun _ rec kids st hrec hk hinv =>
  ⟨(stepPermut_inv hrec hk hinv).1, (stepPermut_stepped rec kids st).1.sticky hrec hk, fun hs n =>
    clsOuts_noVal stepPermut rec (PermutDone rec) (permut_done_step rec) n _ _ ((stepPermut_inv hrec hk hinv).2 hs)⟩

/-- Every node's class is in `S` and its own state satisfies the invariant of its class. -/
inductive AllNodes (S : Cls → Prop) (Inv : Cls → St → Prop) : Pat → Prop where
  | node {c : Cls} {kids : List Pat} {st : St} :
      S c → Inv c st → (∀ k ∈ kids, AllNodes S Inv k) → AllNodes S Inv (.node c kids st)

/-- **Once a pattern has raised StopIteration no later `next()` yields a value**, for every tree of classes that
    are sticky on a state invariant which the tree's nodes satisfy (it is preserved by every step). -/
theorem sticky_stepF_I {S : Cls → Prop} {Inv : Cls → St → Prop} (hS : ∀ c, S c → ClsStickyI (Inv c) c)
    (fuel : Nat) (p : Pat) (hp : AllNodes S Inv p) :
    AllNodes S Inv (stepF fuel p).p ∧
    ((stepF fuel p).out = .stop → ∀ n, ∀ o ∈ outs fuel n (stepF fuel p).p, NoVal o) :=
  sticky_tree (fun m c kids st hrec hp => by
    obtain ⟨hc, hi, hk⟩ := hp
    obtain ⟨h0, h1, h2⟩ := hS _ hc _ (stepF m) _ _ hrec hk hi
    exact ⟨.node hc h0 h1, h2⟩) fuel p hp

/-- The classes of this group that are sticky for all own states. -/
def Seq2Sticky (c : Cls) : Prop :=
  c = .reverse ∨ c = .pad ∨ c = .padToMultiple ∨ c = .counter ∨ c = .collapse ∨ c = .noRepeats ∨
  c = .interpolate ∨ c = .euclidean ∨ c = .arpeggiator

theorem seq2_sticky (c : Cls) (h : Seq2Sticky c) : ClsSticky c := by
  rcases h with rfl | rfl | rfl | rfl | rfl | rfl | rfl | rfl | rfl
  · exact reverse_sticky
  · exact pad_sticky
  · exact padToMultiple_sticky
  · exact counter_sticky
  · exact collapse_sticky
  · exact noRepeats_sticky
  · exact interpolate_sticky
  · exact euclidean_sticky
  · exact arpeggiator_sticky

/-- State invariants of this group: only `PPermut` needs one. -/
def seq2Inv (c : Cls) (st : St) : Prop := c = .permut → PermutInv st

theorem seq2_stickyI (c : Cls) (h : c = .permut ∨ Seq2Sticky c ∨ StickyCore c) : ClsStickyI (seq2Inv c) c := by
  intro P rec kids st hrec hk hinv
  refine ⟨fun hc => by subst hc; exact (permut_sticky P rec kids st hrec hk (hinv rfl)).1, ?_⟩
  rcases h with rfl | h
  · exact (permut_sticky P rec kids st hrec hk (hinv rfl)).2
  · exact h.elim (seq2_sticky c) (core_sticky c) P rec kids st hrec hk

/-- **C09 for this group**: in any expression built from PReverse, PPad, PPadToMultiple, PCounter, PCollapse,
    PNoRepeats, PInterpolate, PEuclidean, PArpeggiator, PPermut (in a state its code can reach — e.g. freshly
    constructed or reset) and the sticky core classes, nested to any depth, once `next()` has raised StopIteration
    no later `next()` yields a value. -/
theorem sticky_seq2 (fuel : Nat) (p : Pat)
    (hp : AllNodes (fun c => c = .permut ∨ Seq2Sticky c ∨ StickyCore c) seq2Inv p)
    (hstop : (stepF fuel p).out = .stop) : ∀ n, ∀ o ∈ outs fuel n (stepF fuel p).p, NoVal o :=
  (sticky_stepF_I seq2_stickyI fuel p hp).2 hstop

section Example
def cI (i : Int) : Pat := Pat.const (.int i)
def sqI (xs : List Int) (rep : Int) : Pat := .node .seq (xs.map cI) { n0 := rep }
/-- `PPad(PPermut(PSequence([1, 2], 1), 2), 5)` -/
def ex1 : Pat := .node .pad [.node .permut [sqI [1, 2] 1] { n0 := 2, n1 := MAXSIZE, n2 := MAXSIZE }] { n0 := 5 }
example : outs 10 9 ex1 = [.val (.int 1), .val (.int 2), .val (.int 2), .val (.int 1), .val Val.none, .stop, .stop, .stop, .stop] := by
  decide +kernel
example : (nextn 10 20 ex1).vals.length = 5 ∧ (len 10 100 ex1).1 = some 5 := by decide +kernel
example : PermutInv { n0 := 2, n1 := MAXSIZE, n2 := MAXSIZE } := by left; simp [MAXSIZE]
/-- `PReset(PSequence([1, 2], 1), PSequence([0, 0, 0, 1], 1))` resumes (selector) and ends with its trigger -/
example : outs 10 7 (.node .reset [sqI [1, 2] 1, sqI [0, 0, 0, 1] 1] {}) =
    [.val (.int 1), .val (.int 2), .stop, .val (.int 1), .stop, .stop, .stop] := by decide +kernel
end Example

end IsobarV.C09
