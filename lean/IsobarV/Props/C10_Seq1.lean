/-
C10 — deterministic library patterns match their reference definitions: PSequence, PConcatenate, PSeries,
PRange, PGeom, PImpulse, PLoop, PPingPong, PStutter, PSubsequence, PCreep.

Every theorem is stated for an ARBITRARY semantics `rec` of the sub-patterns: inputs are described by their
outcomes under `rec` (`recOuts rec n kid`), constant parameters by `ConstUnder rec kid v` (which holds for
`Pat.const v` under every `stepF (fuel + 1)`).  So they hold on nested combinations of patterns.

Per class: one lemma for each branch of its step function, on a named state (`x_end` for the branch that raises
StopIteration; the loops inside a step are in `Pat/Cls/Seq1Lemmas.lean`); these are chained into runs (`Run`,
`Pat/Streams.lean`); a reference theorem is a run followed by a state from which the class yields StopIteration for
ever (`pad_of_run`).
-/
import IsobarV.Pat.Streams
import IsobarV.Pat.Cls.Seq1Lemmas

namespace IsobarV.C10Seq1
open IsobarV.Pat

/-- The kid `k` is the constant `v` under `rec`: it yields `v` and is not changed by being read. -/
def ConstUnder (rec : Rec) (k : Pat) (v : Val) : Prop := rec k = { out := .val v, p := k }

/-- A `PConstant` (or a plain scalar) is constant under the real semantics. -/
theorem constUnder_stepF (fuel : Nat) (v : Val) : ConstUnder (stepF (fuel + 1)) (Pat.const v) v := rfl

/-- As a `simp` lemma `stepKid_const h` reads the constant kid wherever it stands in `kids`. -/
theorem stepKid_const {rec : Rec} {kids : List Pat} {i : Nat} {k : Pat} {v : Val} (hc : ConstUnder rec k v)
    (hk : kids[i]? = some k) : stepKid rec kids i = (.val v, kids) := by
  rw [stepKid_fixed hk (congrArg StepRes.p hc), show rec k = _ from hc]

theorem recAfter_const {rec : Rec} {k : Pat} {v : Val} (h : ConstUnder rec k v) (t : Nat) : recAfter rec t k = k := by
  induction t with
  | zero => rfl
  | succ t ih => rw [recAfter, show rec k = _ from h]; exact ih

theorem recOuts_const {rec : Rec} {k : Pat} {v : Val} (h : ConstUnder rec k v) (n : Nat) :
    recOuts rec n k = (List.range n).map (fun _ => .val v) := by
  induction n with
  | zero => rfl
  | succ n ih => rw [range_succ_map, recOuts, show rec k = _ from h, ih]

theorem recAfter_succ' (rec : Rec) (j : Nat) (k : Pat) : recAfter rec j (rec k).p = recAfter rec (j + 1) k := rfl

/-- Kids and state of a class after `n` steps: where `clsOuts_add` splits a stream of outcomes.  (The reference
    theorems below carry the end point along in `Run` instead.) -/
def clsAfter (step : ClsStep) (rec : Rec) : Nat → List Pat → St → List Pat × St
  | 0, kids, st => (kids, st)
  | n + 1, kids, st => clsAfter step rec n (step rec kids st).kids (step rec kids st).st

theorem clsOuts_add (step : ClsStep) (rec : Rec) (m n : Nat) (kids : List Pat) (st : St) :
    clsOuts step rec (m + n) kids st =
      clsOuts step rec m kids st ++ clsOuts step rec n (clsAfter step rec m kids st).1 (clsAfter step rec m kids st).2 := by
  induction m generalizing kids st with
  | zero => rw [Nat.zero_add]; rfl
  | succ m ih => rw [Nat.add_right_comm]; simp only [clsOuts, clsAfter, List.cons_append, ih]

theorem numCmp_ge_int (a b : Int) : numCmp .ge (Val.int a) (Val.int b) = some (decide (b ≤ a)) :=
  congrArg some (decide_eq_decide.mpr Rat.intCast_le_intCast)

theorem toNat_max_one (c : Int) : (max c 1).toNat = (c - 1).toNat + 1 := by omega

theorem le_toNat_max_one (c : Int) : c ≤ (max c 1).toNat := Int.le_trans (Int.le_max_left c 1) (Int.self_le_toNat _)

theorem pyAdd_int (a b : Int) : pyBin .add (Val.int a) (Val.int b) = .val (Val.int (a + b)) := rfl
theorem pyAdd_flt (a b : Rat) : pyBin .add (Val.flt a) (Val.flt b) = .val (Val.flt (a + b)) := rfl
theorem pyMul_int (a b : Int) : pyBin .mul (Val.int a) (Val.int b) = .val (Val.int (a * b)) := rfl
theorem pyMul_flt (a b : Rat) : pyBin .mul (Val.flt a) (Val.flt b) = .val (Val.flt (a * b)) := rfl

/-- The running accumulation `x, x ⊕ d₀, (x ⊕ d₀) ⊕ d₁, …` of a parameter stream. -/
def accum {α : Type} (f : α → α → α) (x : α) (ds : Nat → α) : Nat → α
  | 0 => x
  | i + 1 => accum f (f x (ds 0)) (fun j => ds (j + 1)) i

theorem accum_add_int (a d : Int) (i : Nat) : accum (· + ·) a (fun _ => d) i = a + (i : Int) * d := by
  induction i generalizing a with
  | zero => rw [accum, Int.natCast_zero, Int.zero_mul, Int.add_zero]
  | succ i ih => rw [accum, ih, Int.natCast_succ, Int.add_mul, Int.one_mul, Int.add_assoc, Int.add_comm d]

theorem accum_add_rat (a d : Rat) (i : Nat) : accum (· + ·) a (fun _ => d) i = a + (i : Rat) * d := by
  induction i generalizing a with
  | zero => rw [accum, Rat.natCast_ofNat, Rat.zero_mul, Rat.add_zero]
  | succ i ih =>
    rw [accum, ih, Rat.natCast_add, Rat.natCast_ofNat, Rat.add_mul, Rat.one_mul, Rat.add_assoc, Rat.add_comm d]

theorem accum_mul_int (a q : Int) (i : Nat) : accum (· * ·) a (fun _ => q) i = a * q ^ i := by
  induction i generalizing a with
  | zero => rw [accum, Int.pow_zero, Int.mul_one]
  | succ i ih => rw [accum, ih, Int.pow_succ, Int.mul_assoc, Int.mul_comm q]

theorem accum_mul_rat (a q : Rat) (i : Nat) : accum (· * ·) a (fun _ => q) i = a * q ^ i := by
  induction i generalizing a with
  | zero => rw [accum, Rat.pow_zero, Rat.mul_one]
  | succ i ih => rw [accum, ih, Rat.pow_succ, Rat.mul_assoc, Rat.mul_comm q]

/-- What PSeries and PGeom share: a count `c` running up to `L` and a value `a` that is folded with the
    parameter's next value at every step.  `D a c k kids st` describes an object at value `a` and count `c`
    whose parameter is the kid `k`. -/
theorem accum_outs {α : Type} (ι : α → Val) (f : α → α → α) (L : Int) {step : ClsStep} {rec : Rec}
    (D : α → Int → Pat → List Pat → St → Prop)
    (hstop : ∀ a c k kids st, D a c k kids st → L ≤ c → step rec kids st = ⟨.stop, kids, st⟩)
    (hstep : ∀ a c k kids st d, D a c k kids st → c < L → (rec k).out = .val (ι d) →
      (step rec kids st).out = .val (ι a) ∧ D (f a d) (c + 1) (rec k).p (step rec kids st).kids (step rec kids st).st)
    (n : Nat) : ∀ (a : α) (c : Int) (k : Pat) (ds : Nat → α) (kids : List Pat) (st : St), D a c k kids st →
      recOuts rec n k = (List.range n).map (fun i => .val (ι (ds i))) →
      clsOuts step rec n kids st =
        (List.range n).map (fun (i : Nat) => if c + (i : Int) < L then .val (ι (accum f a ds i)) else .stop) := by
  induction n with
  | zero => intros; rfl
  | succ n ih =>
    intro a c k ds kids st hD hs
    by_cases hc : c < L
    · obtain ⟨e1, e2⟩ := recOuts_stream hs
      obtain ⟨ho, hD'⟩ := hstep a c k kids st (ds 0) hD hc e1
      rw [range_succ_map, clsOuts, ho, ih _ _ _ _ _ _ hD' e2, Int.natCast_zero, Int.add_zero, if_pos hc]
      congr 1
      apply List.map_congr_left
      intro i _
      rw [Int.add_assoc, Int.add_comm 1, ← Int.natCast_succ]
      rfl
    · have e : ∀ i ∈ List.range (n + 1),
          (if c + (i : Int) < L then Out.val (ι (accum f a ds i)) else Out.stop) = Out.stop := fun i _ =>
        if_neg fun h => hc (Int.lt_of_le_of_lt (Int.le_add_of_nonneg_right (Int.natCast_nonneg i)) h)
      rw [clsOuts_fixed (hstop a c k kids st hD (Int.not_lt.mp hc)), List.map_congr_left e, List.map_const', List.length_range]

section Series
variable {α : Type} (ι : α → Val) (f : α → α → α) (hf : ∀ x y, pyBin .add (ι x) (ι y) = .val (ι (f x y)))
  {rec : Rec} {len : Pat} {L : Int} (hl : ConstUnder rec len (Val.int L))

include hl in
theorem series_end (stp : Pat) (st : St) (hc : L ≤ st.n0) :
    stepSeries rec [len, stp] st = ⟨.stop, [len, stp], st⟩ := by
  simp [stepSeries, stepKid_const hl, numCmp_ge_int, hc]

include hf hl in
theorem series_step {stp : Pat} {st : St} {a d : α} (hc : st.n0 < L) (hd : (rec stp).out = .val (ι d)) (h1 : st.v1 = ι a) :
    stepSeries rec [len, stp] st =
      ⟨.val (ι a), [len, (rec stp).p], { st with v1 := ι (f a d), n0 := st.n0 + 1 }⟩ := by
  simp [stepSeries, stepKid_const hl, stepKid_one, numCmp_ge_int, Int.not_le.mpr hc, hd, h1, hf]
end Series

/-- **PSeries, general form.**  With a constant `length = L` and a `step` pattern yielding `ds 0, ds 1, …`
    the `i`-th output (`i < L`) is `start ⊕ ds 0 ⊕ … ⊕ ds (i-1)`; from `i = L` on the series has ended.
    `ι` embeds the number type (`Val.int` or `Val.flt`), `f` is its addition. -/
theorem series_reference_gen {α : Type} (ι : α → Val) (f : α → α → α)
    (hf : ∀ x y, pyBin .add (ι x) (ι y) = .val (ι (f x y)))
    (rec : Rec) (len : Pat) (L : Int) (hl : ConstUnder rec len (Val.int L)) (n : Nat) :
    ∀ (stp : Pat) (ds : Nat → α) (a : α) (st : St) (c : Int),
      recOuts rec n stp = (List.range n).map (fun i => .val (ι (ds i))) → st.v1 = ι a → st.n0 = c →
      clsOuts stepSeries rec n [len, stp] st =
        (List.range n).map (fun (i : Nat) => if c + (i : Int) < L then .val (ι (accum f a ds i)) else .stop) :=
  fun stp ds a st c hs h1 h0 =>
    accum_outs ι f L (fun a c k kids st => kids = [len, k] ∧ st.v1 = ι a ∧ st.n0 = c)
      (by rintro _ _ k _ st ⟨rfl, -, rfl⟩ hc; exact series_end hl k st hc)
      (by rintro a _ k _ st d ⟨rfl, h1, rfl⟩ hc hd; rw [series_step ι f hf hl hc hd h1]; exact ⟨rfl, rfl, rfl, rfl⟩)
      n a c stp ds _ st ⟨rfl, h1, h0⟩ hs

/-- **PSeries(start, step, length), integers, closed form**: `start + i·step` for `i < length`, then the end. -/
theorem series_reference_int (rec : Rec) (len stp : Pat) (L a d : Int) (hl : ConstUnder rec len (Val.int L))
    (hs : ConstUnder rec stp (Val.int d)) (n : Nat) :
    clsOuts stepSeries rec n [len, stp] { v0 := Val.int a, v1 := Val.int a } =
      (List.range n).map (fun (i : Nat) => if (i : Int) < L then .val (Val.int (a + i * d)) else .stop) := by
  simpa only [Int.zero_add, accum_add_int] using
    series_reference_gen Val.int (· + ·) pyAdd_int rec len L hl n stp (fun _ => d) a _ 0 (recOuts_const hs n) rfl rfl

/-- **PSeries, floats, closed form**: `start + i·step` for `i < length`. -/
theorem series_reference_flt (rec : Rec) (len stp : Pat) (L : Int) (a d : Rat) (hl : ConstUnder rec len (Val.int L))
    (hs : ConstUnder rec stp (Val.flt d)) (n : Nat) :
    clsOuts stepSeries rec n [len, stp] { v0 := Val.flt a, v1 := Val.flt a } =
      (List.range n).map (fun (i : Nat) => if (i : Int) < L then .val (Val.flt (a + i * d)) else .stop) := by
  simpa only [Int.zero_add, accum_add_rat] using
    series_reference_gen Val.flt (· + ·) pyAdd_flt rec len L hl n stp (fun _ => d) a _ 0 (recOuts_const hs n) rfl rfl

/-- **PSeries with a pattern-valued step** (integers): the outputs are the running sums of the step stream. -/
theorem series_reference_varying (rec : Rec) (len stp : Pat) (L a : Int) (ds : Nat → Int)
    (hl : ConstUnder rec len (Val.int L)) (n : Nat)
    (hs : recOuts rec n stp = (List.range n).map (fun i => .val (Val.int (ds i)))) :
    clsOuts stepSeries rec n [len, stp] { v0 := Val.int a, v1 := Val.int a } =
      (List.range n).map (fun (i : Nat) => if (i : Int) < L then .val (Val.int (accum (· + ·) a ds i)) else .stop) := by
  simpa only [Int.zero_add] using
    series_reference_gen Val.int (· + ·) pyAdd_int rec len L hl n stp ds a _ 0 hs rfl rfl

example : clsOuts stepSeries (stepF 5) 6 [Pat.const (.int 4), Pat.const (.int 3)] { v0 := .int 10, v1 := .int 10 } =
    [.val (.int 10), .val (.int 13), .val (.int 16), .val (.int 19), .stop, .stop] := by decide +kernel
example : clsOuts stepSeries (stepF 5) 5
    [Pat.const (.int 9), .node .seq [Pat.const (.int 1), Pat.const (.int 10)] { n0 := -1 }] { v0 := .int 0, v1 := .int 0 } =
    [.val (.int 0), .val (.int 1), .val (.int 11), .val (.int 12), .val (.int 22)] := by decide +kernel

theorem geom_end (rec : Rec) (m : Pat) (st : St) (hc : st.n1 ≤ st.n0) : stepGeom rec [m] st = ⟨.stop, [m], st⟩ := by
  simp [stepGeom, hc]

theorem geom_step {α : Type} (ι : α → Val) (f : α → α → α) (hf : ∀ x y, pyBin .mul (ι x) (ι y) = .val (ι (f x y)))
    {rec : Rec} {m : Pat} {st : St} {a q : α} (hc : st.n0 < st.n1) (hq : (rec m).out = .val (ι q)) (h1 : st.v1 = ι a) :
    stepGeom rec [m] st = ⟨.val (ι a), [(rec m).p], { st with v1 := ι (f a q), n0 := st.n0 + 1 }⟩ := by
  simp [stepGeom, stepKid_zero, Int.not_le.mpr hc, hq, h1, hf]

/-- **PGeom, general form.**  With a `multiply` pattern yielding `qs 0, qs 1, …` the `i`-th output
    (`i < length`) is `start ⊗ qs 0 ⊗ … ⊗ qs (i-1)`; from `i = length` on the pattern has ended. -/
theorem geom_reference_gen {α : Type} (ι : α → Val) (f : α → α → α)
    (hf : ∀ x y, pyBin .mul (ι x) (ι y) = .val (ι (f x y))) (rec : Rec) (L : Int) (n : Nat) :
    ∀ (m : Pat) (qs : Nat → α) (a : α) (st : St) (c : Int),
      recOuts rec n m = (List.range n).map (fun i => .val (ι (qs i))) → st.v1 = ι a → st.n0 = c → st.n1 = L →
      clsOuts stepGeom rec n [m] st =
        (List.range n).map (fun (i : Nat) => if c + (i : Int) < L then .val (ι (accum f a qs i)) else .stop) :=
  fun m qs a st c hs h1 h0 hL =>
    accum_outs ι f L (fun a c k kids st => kids = [k] ∧ st.v1 = ι a ∧ st.n0 = c ∧ st.n1 = L)
      (by rintro _ _ k _ st ⟨rfl, -, rfl, rfl⟩ hc; exact geom_end rec k st hc)
      (by rintro a _ k _ st q ⟨rfl, h1, rfl, rfl⟩ hc hq; rw [geom_step ι f hf hc hq h1]; exact ⟨rfl, rfl, rfl, rfl, rfl⟩)
      n a c m qs _ st ⟨rfl, h1, h0, hL⟩ hs

/-- **PGeom(start, multiply, length), integers, closed form**: `start · multiplyⁱ` for `i < length`. -/
theorem geom_reference_int (rec : Rec) (m : Pat) (L a q : Int) (hm : ConstUnder rec m (Val.int q)) (n : Nat) :
    clsOuts stepGeom rec n [m] { v0 := Val.int a, v1 := Val.int a, n1 := L } =
      (List.range n).map (fun (i : Nat) => if (i : Int) < L then .val (Val.int (a * q ^ i)) else .stop) := by
  simpa only [Int.zero_add, accum_mul_int] using
    geom_reference_gen Val.int (· * ·) pyMul_int rec L n m (fun _ => q) a _ 0 (recOuts_const hm n) rfl rfl rfl

/-- **PGeom, floats, closed form**. -/
theorem geom_reference_flt (rec : Rec) (m : Pat) (L : Int) (a q : Rat) (hm : ConstUnder rec m (Val.flt q)) (n : Nat) :
    clsOuts stepGeom rec n [m] { v0 := Val.flt a, v1 := Val.flt a, n1 := L } =
      (List.range n).map (fun (i : Nat) => if (i : Int) < L then .val (Val.flt (a * q ^ i)) else .stop) := by
  simpa only [Int.zero_add, accum_mul_rat] using
    geom_reference_gen Val.flt (· * ·) pyMul_flt rec L n m (fun _ => q) a _ 0 (recOuts_const hm n) rfl rfl rfl

/-- **PGeom with a pattern-valued multiplier** (integers): the running products of the multiplier stream. -/
theorem geom_reference_varying (rec : Rec) (m : Pat) (L a : Int) (qs : Nat → Int) (n : Nat)
    (hs : recOuts rec n m = (List.range n).map (fun i => .val (Val.int (qs i)))) :
    clsOuts stepGeom rec n [m] { v0 := Val.int a, v1 := Val.int a, n1 := L } =
      (List.range n).map (fun (i : Nat) => if (i : Int) < L then .val (Val.int (accum (· * ·) a qs i)) else .stop) := by
  simpa only [Int.zero_add] using geom_reference_gen Val.int (· * ·) pyMul_int rec L n m qs a _ 0 hs rfl rfl rfl

example : clsOuts stepGeom (stepF 5) 6 [Pat.const (.int 3)] { v0 := .int 2, v1 := .int 2, n1 := 4 } =
    [.val (.int 2), .val (.int 6), .val (.int 18), .val (.int 54), .stop, .stop] := by decide +kernel

/-- PRange's end test on the current value `y`: `(step > 0 and y >= end) or (step < 0 and y <= end)`. -/
def rangeEnded (e d y : Rat) : Prop := (0 < d ∧ e ≤ y) ∨ (d < 0 ∧ y ≤ e)

instance (e d y : Rat) : Decidable (rangeEnded e d y) := by unfold rangeEnded; infer_instance

theorem rangeEnded_add {e d y : Rat} (h : rangeEnded e d y) : rangeEnded e d (y + d) := by
  rcases h with ⟨h1, h2⟩ | ⟨h1, h2⟩ <;> have hd := (Rat.add_le_add_left (c := y)).mpr (Rat.le_of_lt h1) <;>
    rw [Rat.add_zero] at hd
  · exact .inl ⟨h1, Rat.le_trans h2 hd⟩
  · exact .inr ⟨h1, Rat.le_trans hd h2⟩

section RangeGen
variable {α : Type} [Add α] (ι : α → Val) (toR : α → Rat)
  (hcmp : ∀ op x y, numCmp op (ι x) (ι y) = some (cmpOp op (toR x) (toR y)))
  (hcmp0 : ∀ op x, numCmp op (ι x) (Val.int 0) = some (cmpOp op (toR x) 0))
  (hadd : ∀ x y, pyBin .add (ι x) (ι y) = .val (ι (x + y)))
  (hR : ∀ x y, toR (x + y) = toR x + toR y)

include hcmp hcmp0 hadd in
theorem range_step (rec : Rec) (e' d' : Pat) (e d : α) (he : ConstUnder rec e' (ι e)) (hd : ConstUnder rec d' (ι d))
    (x : α) (st : St) (h1 : st.v1 = ι x) :
    stepRange rec [e', d'] st =
      if rangeEnded (toR e) (toR d) (toR x) then { out := .stop, kids := [e', d'], st := st }
      else { out := .val (ι x), kids := [e', d'], st := { st with v1 := ι (x + d) } } := by
  have k0 : stepKid rec [e', d'] 0 = (.val (ι e), [e', d']) := stepKid_const he rfl
  have k1 : stepKid rec [e', d'] 1 = (.val (ι d), [e', d']) := stepKid_const hd rfl
  simp only [stepRange, rangeEmit, k0, k1, hcmp, hcmp0, h1, hadd, cmpOp, rangeEnded]
  by_cases hp : 0 < toR d
  · have hn : ¬ toR d < 0 := Rat.not_lt.mpr (Rat.le_of_lt hp)
    by_cases hq : toR e ≤ toR x <;> simp [hp, hq, hn]
  · by_cases hn : toR d < 0
    · by_cases hq : toR x ≤ toR e <;> simp [hp, hq, hn]
    · simp [hp, hn]

include hR in
theorem rangeEnded_accum (e d x : α) (i : Nat) (h : rangeEnded (toR e) (toR d) (toR x)) :
    rangeEnded (toR e) (toR d) (toR (accum (· + ·) x (fun _ => d) i)) := by
  induction i generalizing x with
  | zero => exact h
  | succ i ih => exact ih (x + d) (by rw [hR]; exact rangeEnded_add h)

include hcmp hcmp0 hadd hR in
/-- **PRange, general number type**: the values `start, start + step, …` until the end test fires; then the
    range has ended for good. -/
theorem range_reference_gen (rec : Rec) (e' d' : Pat) (e d : α) (he : ConstUnder rec e' (ι e)) (hd : ConstUnder rec d' (ι d))
    (n : Nat) : ∀ (x : α) (st : St), st.v1 = ι x →
      clsOuts stepRange rec n [e', d'] st =
        (List.range n).map (fun i =>
          if rangeEnded (toR e) (toR d) (toR (accum (· + ·) x (fun _ => d) i)) then .stop
          else .val (ι (accum (· + ·) x (fun _ => d) i))) := by
  induction n with
  | zero => intros; rfl
  | succ n ih =>
    intro x st h1
    have hstep := range_step ι toR hcmp hcmp0 hadd rec e' d' e d he hd x st h1
    by_cases hend : rangeEnded (toR e) (toR d) (toR x)
    · rw [if_pos hend] at hstep
      rw [clsOuts_fixed hstep, List.map_congr_left fun i _ => if_pos (rangeEnded_accum toR hR e d x i hend),
        List.map_const', List.length_range]
    · rw [if_neg hend] at hstep
      rw [range_succ_map, clsOuts_cons hstep, ih (x + d) _ rfl, accum, if_neg hend]
      rfl
end RangeGen

/-- **PRange(start, end, step), integers, closed form**: `start + i·step` as long as it has not reached
    (`step > 0`) / fallen to (`step < 0`) `end`; then StopIteration for ever.  (`step = 0`: endless.) -/
theorem range_reference_int (rec : Rec) (e' d' : Pat) (a e d : Int) (he : ConstUnder rec e' (Val.int e))
    (hd : ConstUnder rec d' (Val.int d)) (n : Nat) :
    clsOuts stepRange rec n [e', d'] { v0 := Val.int a, v1 := Val.int a } =
      (List.range n).map (fun (i : Nat) =>
        if (0 < d ∧ e ≤ a + i * d) ∨ (d < 0 ∧ a + i * d ≤ e) then .stop else .val (Val.int (a + i * d))) := by
  simpa only [accum_add_int, rangeEnded, Rat.intCast_pos, Rat.intCast_neg_iff, Rat.intCast_le_intCast] using
    range_reference_gen Val.int (fun x => (x : Rat)) (fun _ _ _ => rfl) (fun _ _ => rfl) pyAdd_int
      (fun x y => Rat.intCast_add x y) rec e' d' e d he hd n a _ rfl

/-- **PRange, floats, closed form**. -/
theorem range_reference_flt (rec : Rec) (e' d' : Pat) (a e d : Rat) (he : ConstUnder rec e' (Val.flt e))
    (hd : ConstUnder rec d' (Val.flt d)) (n : Nat) :
    clsOuts stepRange rec n [e', d'] { v0 := Val.flt a, v1 := Val.flt a } =
      (List.range n).map (fun (i : Nat) =>
        if (0 < d ∧ e ≤ a + i * d) ∨ (d < 0 ∧ a + i * d ≤ e) then .stop else .val (Val.flt (a + i * d))) := by
  simpa only [accum_add_rat, rangeEnded] using
    range_reference_gen Val.flt (fun x => x) (fun _ _ _ => rfl) (fun _ _ => rfl) pyAdd_flt
      (fun _ _ => rfl) rec e' d' e d he hd n a _ rfl

/-- For a positive integer step the outputs are exactly Python's `range(start, end, step)`: the `i`-th
    value exists iff `start + i·step < end`. -/
theorem range_reference_up (rec : Rec) (e' d' : Pat) (a e d : Int) (hpos : 0 < d) (he : ConstUnder rec e' (Val.int e))
    (hd : ConstUnder rec d' (Val.int d)) (n : Nat) :
    clsOuts stepRange rec n [e', d'] { v0 := Val.int a, v1 := Val.int a } =
      (List.range n).map (fun (i : Nat) => if a + i * d < e then .val (Val.int (a + i * d)) else .stop) := by
  rw [range_reference_int rec e' d' a e d he hd n]
  apply List.map_congr_left
  intro i _
  by_cases h : a + i * d < e
  · rw [if_pos h, if_neg (Or.rec (fun h' => Int.not_le.mpr h h'.2) fun h' => Int.lt_asymm hpos h'.1)]
  · rw [if_neg h, if_pos (.inl ⟨hpos, Int.not_lt.mp h⟩)]

example : clsOuts stepRange (stepF 5) 6 [Pat.const (.int 9), Pat.const (.int 3)] { v0 := .int 1, v1 := .int 1 } =
    [.val (.int 1), .val (.int 4), .val (.int 7), .stop, .stop, .stop] := by decide +kernel
example : clsOuts stepRange (stepF 5) 5 [Pat.const (.int (-500)), Pat.const (.int (-250))] { v0 := .int 500, v1 := .int 500 } =
    [.val (.int 500), .val (.int 250), .val (.int 0), .val (.int (-250)), .stop] := by decide +kernel

theorem impulse_step {rec : Rec} {per : Pat} {p : Int} (hp : ConstUnder rec per (Val.int p)) (st : St) :
    stepImpulse rec [per] st =
      ⟨.val (Val.int (if p ≤ st.n0 ∨ st.n0 = 0 then 1 else 0)), [per], { st with n0 := if p ≤ st.n0 then 1 else st.n0 + 1 }⟩ := by
  by_cases h : p ≤ st.n0 <;> simp [stepImpulse, stepKid_const hp, numCmp_ge_int, h]

/-- **PImpulse(period)**, `period ≥ 1`: a 1 at every multiple of `period`, otherwise 0. -/
theorem impulse_reference (rec : Rec) (per : Pat) (p : Int) (hp : ConstUnder rec per (Val.int p)) (h1 : 1 ≤ p) (n : Nat) :
    clsOuts stepImpulse rec n [per] {} =
      (List.range n).map (fun (i : Nat) => .val (Val.int (if (i : Int) % p = 0 then 1 else 0))) := by
  -- `pos` runs through `0, 1, …, p, 1, …`: it is the number of steps so far modulo `p`, with `p` standing for 0
  refine clsOuts_eq_map n (fun i kids st => kids = [per] ∧ 0 ≤ st.n0 ∧ st.n0 ≤ p ∧ st.n0 % p = (i : Int) % p) _ ?_
    [per] {} ⟨rfl, Int.le_refl 0, Int.le_trans (by decide) h1, rfl⟩
  rintro i _ st ⟨rfl, h0, hle, hm⟩
  rw [impulse_step hp]
  have hnext : (st.n0 + 1) % p = ((i + 1 : Nat) : Int) % p := by rw [Int.natCast_succ, Int.add_emod, hm, ← Int.add_emod]
  by_cases hge : p ≤ st.n0
  · obtain rfl : st.n0 = p := Int.le_antisymm hle hge
    rw [Int.emod_self] at hm
    rw [Int.add_emod_left] at hnext
    simp only [hge, true_or, if_true, ← hm, true_and]
    exact ⟨Int.one_nonneg, h1, hnext⟩
  · rw [Int.emod_eq_of_lt h0 (Int.not_le.mp hge)] at hm
    simp only [hge, false_or, if_false, ← hm, true_and]
    exact ⟨Int.le_add_one h0, Int.not_le.mp hge, hnext⟩

/-- `period ≤ 0`: every position restarts the period, the output is a constant 1. -/
theorem impulse_reference_nonpos (rec : Rec) (per : Pat) (p : Int) (hp : ConstUnder rec per (Val.int p)) (h0 : p ≤ 0) (n : Nat) :
    ∀ (st : St), 0 ≤ st.n0 → clsOuts stepImpulse rec n [per] st = List.replicate n (.val (Val.int 1)) := fun st hst =>
  clsOuts_const (fun kids st => kids = [per] ∧ 0 ≤ st.n0)
    (by
      rintro _ st ⟨rfl, h⟩
      have hge : p ≤ st.n0 := Int.le_trans h0 h
      rw [impulse_step hp]
      simp only [hge, true_or, if_true, true_and]
      decide)
    n [per] st ⟨rfl, hst⟩

example : clsOuts stepImpulse (stepF 5) 7 [Pat.const (.int 3)] {} =
    [.val (.int 1), .val (.int 0), .val (.int 0), .val (.int 1), .val (.int 0), .val (.int 0), .val (.int 1)] := by decide +kernel

/-- The first `n` outcomes of a pattern that yields the values `l` and then raises StopIteration for ever. -/
def pad (n : Nat) (l : List Val) : List Out := (l.map Out.val ++ List.replicate n Out.stop).take n

theorem pad_zero (l : List Val) : pad 0 l = [] := by simp [pad]
theorem pad_cons (n : Nat) (x : Val) (l : List Val) : pad (n + 1) (x :: l) = .val x :: pad n l := by
  simp only [pad, List.map_cons, List.cons_append, List.take_succ_cons, List.cons.injEq, true_and]
  rw [List.replicate_succ', ← List.append_assoc, List.take_append_of_le_length]
  simp
theorem pad_nil (n : Nat) : pad n [] = List.replicate n .stop := by simp [pad]
theorem pad_length (n : Nat) (l : List Val) : (pad n l).length = n := by simp [pad]

theorem pad_of_run {step : ClsStep} {rec : Rec} {kids kids' : List Pat} {st st' : St} {E : List Val}
    (h : Run step rec kids st (E.map Out.val) kids' st')
    (hstop : ∀ n, clsOuts step rec n kids' st' = List.replicate n .stop) (N : Nat) :
    clsOuts step rec N kids st = pad N E :=
  stops_after_run h hstop N

theorem loop_read_val {rec : Rec} {k : Pat} {x : Val} {st : St} (h3 : st.n3 = 0) (h1 : st.n1 = st.buf.length)
    (hx : (rec k).out = .val x) :
    stepLoop rec [k] st =
      ⟨.val x, [(rec k).p], { st with buf := st.buf ++ [x], n1 := ((st.buf ++ [x]).length : Nat) }⟩ := by
  simp [stepLoop, loopEmit, h3, stepKid_zero, hx, h1]

/-- The step that finds the input exhausted is already a step of the replay phase. -/
theorem loop_read_stop {rec : Rec} {k : Pat} {st : St} (h3 : st.n3 = 0) (hx : (rec k).out = .stop) :
    stepLoop rec [k] st = stepLoop rec [(rec k).p] { st with n3 := 1 } := by
  simp [stepLoop, h3, stepKid_zero, hx]

/-- PLoop replaying `values = vs`: `count = c`, `pos = p`, `loop_index = l`. -/
def lpSt (vs : List Val) (c : Int) (p : Nat) (l : Int) : St := { n0 := c, n1 := p, n2 := l, n3 := 1, buf := vs }

section LoopReplay
variable {rec : Rec} {kids : List Pat} {vs : List Val} {c l : Int}

theorem loop_replay_in {p : Nat} {x : Val} (hx : vs[p]? = some x) :
    stepLoop rec kids (lpSt vs c p l) = ⟨.val x, kids, lpSt vs c (p + 1) l⟩ := by
  have hp : ¬ vs.length ≤ p := Nat.not_le.mpr (List.getElem?_eq_some_iff.mp hx).1
  simp [stepLoop, loopTail, loopEmit, lpSt, hp, hx]

theorem loop_replay_wrap {x : Val} (hl : l < c - 1) (hx : vs[0]? = some x) :
    stepLoop rec kids (lpSt vs c vs.length l) = ⟨.val x, kids, lpSt vs c 1 (l + 1)⟩ := by
  have hp : ¬ vs.length = 0 := Nat.ne_of_gt (List.getElem?_eq_some_iff.mp hx).1
  simp [stepLoop, loopTail, loopEmit, lpSt, hp, hx, Int.not_le.mpr hl]

theorem loop_replay_end (h : c - 1 ≤ l ∨ vs = []) :
    stepLoop rec kids (lpSt vs c vs.length l) = ⟨.stop, kids, lpSt vs c vs.length l⟩ := by
  simp [stepLoop, loopTail, lpSt, h]

/-- After the first pass: `max(count, 1) - 1` more, each beginning with the step that wraps `pos` around. -/
theorem loop_replays (hv : vs ≠ []) :
    Run stepLoop rec kids (lpSt vs c vs.length 0) ((List.replicate (c - 1).toNat vs).flatten.map .val)
      kids (lpSt vs c vs.length (c - 1).toNat) := by
  cases vs with
  | nil => exact absurd rfl hv
  | cons x t =>
    exact .replicate (fun i => lpSt (x :: t) c (x :: t).length i) (x :: t) _ fun i hi =>
      .cons (loop_replay_wrap (Int.lt_toNat.mp hi) rfl)
        (.walk (fun j => lpSt (x :: t) c j (i + 1)) (x :: t) (Nat.le_add_left 1 _) rfl fun _ _ hx => loop_replay_in hx)
end LoopReplay

theorem loop_read (rec : Rec) (r : List Val) : ∀ (k : Pat) (st : St), st.n3 = 0 → st.n1 = st.buf.length →
    recOuts rec r.length k = r.map Out.val →
    Run stepLoop rec [k] st (r.map .val)
      [recAfter rec r.length k] { st with buf := st.buf ++ r, n1 := ((st.buf ++ r).length : Nat) } := by
  induction r with
  | nil => intro k st _ h1 _; rw [List.append_nil, ← h1]; exact .nil
  | cons x r ih =>
    intro k st h3 h1 h
    obtain ⟨hx, hr⟩ := List.cons.inj h
    have := ih (rec k).p { st with buf := st.buf ++ [x], n1 := ((st.buf ++ [x]).length : Nat) } h3 rfl hr
    simp only [List.append_assoc] at this
    exact .cons (loop_read_val h3 h1 hx) this

/-- **PLoop(input, count)**: a finite input yielding `vs` is repeated `max(count, 1)` times (the first pass
    is the input itself, read before `count` is looked at); an empty input gives an empty loop. -/
theorem loop_reference (rec : Rec) (inp : Pat) (vs : List Val) (c : Int) (n : Nat)
    (h : recOuts rec (vs.length + 1) inp = vs.map Out.val ++ [.stop]) :
    clsOuts stepLoop rec n [inp] { n0 := c } = pad n (List.replicate (max c 1).toNat vs).flatten := by
  obtain ⟨h1, h2⟩ := recOuts_then_stop h
  -- the read pass; the call that finds the input exhausted is the first of the replay phase
  have hread : Run stepLoop rec [inp] { n0 := c } (vs.map .val) _ (lpSt vs c vs.length 0) :=
    (loop_read rec vs inp { n0 := c } rfl rfl h1).of_eq (clsOuts_congr (loop_read_stop rfl h2))
  by_cases hv : vs = []
  · subst hv
    rw [List.flatten_replicate_nil]
    exact pad_of_run hread (clsOuts_fixed (loop_replay_end (vs := []) (.inr rfl))) n
  · rw [toNat_max_one, List.replicate_succ, List.flatten_cons]
    exact pad_of_run (by rw [List.map_append]; exact hread.append (loop_replays hv))
      (clsOuts_fixed (loop_replay_end (.inl (Int.self_le_toNat _)))) n

/-- An input that has not ended yet is passed through unchanged. -/
theorem loop_passthrough (rec : Rec) (n : Nat) :
    ∀ (vs buf : List Val) (k : Pat) (st : St), st.n1 = buf.length → st.n3 = 0 → st.buf = buf →
      recOuts rec n k = vs.map Out.val → clsOuts stepLoop rec n [k] st = vs.map Out.val := by
  intro vs buf k st h1 h3 hb hr
  subst hb
  obtain rfl : n = vs.length := by rw [← recOuts_length rec n k, hr, List.length_map]
  have := (loop_read rec vs k st h3 h1 hr).outs
  rwa [List.length_map] at this

example : clsOuts stepLoop (stepF 5) 8 [.node .seq [Pat.const (.int 1), Pat.const (.int 4), Pat.const (.int 9)] { n0 := 1 }] { n0 := 2 } =
    [.val (.int 1), .val (.int 4), .val (.int 9), .val (.int 1), .val (.int 4), .val (.int 9), .stop, .stop] := by decide +kernel
example : clsOuts stepLoop (stepF 5) 3 [.node .seq [] { n0 := 1 }] { n0 := 3 } = [.stop, .stop, .stop] := by decide +kernel

/-- PPingPong's state: `values = vs`, `count = c`, `pos = p`, `dir = d`, `rpos = r`. -/
def ppSt (vs : List Val) (c : Int) (p : Nat) (d r : Int) : St := { n0 := c, n1 := p, n2 := d, n3 := r, buf := vs }

section PingPong
variable {rec : Rec} {kids : List Pat} {vs : List Val} {c r : Int} {p : Nat} {x : Val}

/-- Going up: the direction turns at the last position. -/
theorem pingPong_up_step (hx : vs[p]? = some x) (hp : p + 1 < vs.length) (hgo : ¬ ((p : Int) = 1 ∧ c ≤ r)) :
    stepPingPong rec kids (ppSt vs c p 1 r) =
      ⟨.val x, kids, ppSt vs c (p + 1) (if p + 1 + 1 < vs.length then 1 else -1) r⟩ := by
  have hL : ¬ vs.length < 2 := Nat.not_lt.mpr (Nat.le_trans (Nat.le_add_left 2 p) hp)
  have ⟨e3, e4⟩ : ¬ ((p : Int) + 1 = 0) ∧ ((p : Int) + 1 = vs.length - 1 ↔ ¬ p + 1 + 1 < vs.length) := by omega
  by_cases h : p + 1 + 1 < vs.length <;> simp [stepPingPong, ppSt, hL, hgo, e3, e4, hx, h]

/-- Going down: at position 0 the direction turns and a round trip is counted. -/
theorem pingPong_down_step (hx : vs[p + 1]? = some x) (hr : r < c) :
    stepPingPong rec kids (ppSt vs c (p + 1) (-1) r) =
      ⟨.val x, kids, if p = 0 then ppSt vs c 0 1 (r + 1) else ppSt vs c p (-1) r⟩ := by
  have hp : p + 1 < vs.length := (List.getElem?_eq_some_iff.mp hx).1
  have hL : ¬ vs.length < 2 := Nat.not_lt.mpr (Nat.le_trans (Nat.le_add_left 2 p) hp)
  by_cases h : p = 0
  · subst h
    have e : ¬ (0 : Int) = vs.length - 1 := by omega
    simp [stepPingPong, ppSt, hL, Int.not_le.mpr hr, e, hx]
  · have e : ¬ (p : Int) = vs.length - 1 := by omega
    simp [stepPingPong, ppSt, hL, Int.not_le.mpr hr, Int.add_neg_cancel_right, e, hx, h]

theorem pingPong_end (hL : 2 ≤ vs.length) (hr : c ≤ r) (d : Int) :
    stepPingPong rec kids (ppSt vs c 1 d r) = ⟨.stop, kids, ppSt vs c 1 d r⟩ := by
  simp [stepPingPong, ppSt, hL, hr]

theorem pingPong_up (hL : 2 ≤ vs.length) (hr : r < c) :
    Run stepPingPong rec kids (ppSt vs c 0 1 r) (vs.dropLast.map .val) kids (ppSt vs c (vs.length - 1) (-1) r) := by
  have := Run.walk (step := stepPingPong) (rec := rec) (kids := kids)
    (fun i => ppSt vs c i (if i + 1 < vs.length then 1 else -1) r) vs.dropLast (Nat.zero_le _) List.length_dropLast (by
      intro i x hx
      rw [List.getElem?_dropLast] at hx
      split at hx
      · have hi : i + 1 < vs.length := Nat.add_lt_of_lt_sub ‹_›
        rw [if_pos hi]
        exact pingPong_up_step hx hi fun h => Int.not_le.mpr hr h.2
      · exact absurd hx nofun)
  rwa [if_pos (show 0 + 1 < vs.length from hL), Nat.sub_add_cancel (Nat.le_of_succ_le hL), if_neg (Nat.lt_irrefl _)] at this

theorem pingPong_down (hL : 2 ≤ vs.length) (hr : r < c) :
    Run stepPingPong rec kids (ppSt vs c (vs.length - 1) (-1) r) (vs.tail.reverse.map .val) kids (ppSt vs c 0 1 (r + 1)) := by
  have := Run.walk_down (step := stepPingPong) (rec := rec) (kids := kids)
    (fun i => if i = 0 then ppSt vs c 0 1 (r + 1) else ppSt vs c i (-1) r) vs.tail List.length_tail (by
      intro i x hx
      rw [List.getElem?_tail] at hx
      rw [if_neg (Nat.succ_ne_zero i)]
      exact pingPong_down_step hx hr)
  rwa [if_neg (Nat.sub_ne_zero_of_lt hL)] at this

theorem pingPong_short_step (hL : vs.length < 2) (hx : vs[p]? = some x) (r : Int) :
    stepPingPong rec kids (ppSt vs c p 1 r) = ⟨.val x, kids, ppSt vs c (p + 1) 1 r⟩ := by
  have hp : p < vs.length := (List.getElem?_eq_some_iff.mp hx).1
  have ⟨e1, e2, e3, e4⟩ : ¬ vs.length ≤ p ∧ ¬ 2 ≤ vs.length ∧ ¬ ((p : Int) + 1 = vs.length - 1) ∧ ¬ ((p : Int) + 1 = 0) := by
    omega
  simp [stepPingPong, ppSt, hL, e1, e2, e3, e4, hx]

theorem pingPong_short_end (hL : vs.length < 2) (d r : Int) :
    stepPingPong rec kids (ppSt vs c vs.length d r) = ⟨.stop, kids, ppSt vs c vs.length d r⟩ := by
  simp [stepPingPong, ppSt, hL]

end PingPong

/-- **PPingPong(input, count)**, two or more values `vs`: `count` round trips
    `vs[0], …, vs[L-2], vs[L-1], …, vs[1]`, then `vs[0]` once more, then the end. -/
theorem pingPong_reference (rec : Rec) (k : Pat) (vs : List Val) (c : Int) (hL : 2 ≤ vs.length) (N : Nat) :
    clsOuts stepPingPong rec N [k] { n0 := c, n2 := 1, buf := vs } =
      pad N ((List.replicate c.toNat (vs.dropLast ++ vs.tail.reverse)).flatten ++ [vs[0]]) := by
  have cycles := Run.replicate (step := stepPingPong) (rec := rec) (kids := [k]) (fun j => ppSt vs c 0 1 j)
    (vs.dropLast ++ vs.tail.reverse) c.toNat fun j hj => by
      rw [List.map_append]
      exact (pingPong_up hL (Int.lt_toNat.mp hj)).append (pingPong_down hL (Int.lt_toNat.mp hj))
  have last := Run.one (pingPong_up_step (rec := rec) (kids := [k]) (c := c) (r := c.toNat)
    (List.getElem?_eq_getElem (Nat.lt_of_succ_lt hL)) hL fun h => absurd h.1 (by decide))
  exact pad_of_run (by rw [List.map_append]; exact cycles.append last)
    (clsOuts_fixed (pingPong_end hL (Int.self_le_toNat c) _)) N

theorem pingPong_reference_short (rec : Rec) (k : Pat) (vs : List Val) (c : Int) (hL : vs.length < 2) (N : Nat) :
    clsOuts stepPingPong rec N [k] { n0 := c, n2 := 1, buf := vs } = pad N vs :=
  pad_of_run (.walk (fun i => ppSt vs c i 1 0) vs (Nat.zero_le _) rfl fun _ _ hx => pingPong_short_step hL hx 0)
    (clsOuts_fixed (pingPong_short_end hL 1 0)) N

example : clsOuts stepPingPong (stepF 5) 11 [] { n0 := 2, n2 := 1, buf := [.int 1, .int 4, .int 9] } =
    [.val (.int 1), .val (.int 4), .val (.int 9), .val (.int 4), .val (.int 1), .val (.int 4), .val (.int 9), .val (.int 4),
     .val (.int 1), .stop, .stop] := by decide +kernel
example : clsOuts stepPingPong (stepF 5) 3 [] { n0 := 2, n2 := 1, buf := [.int 7] } = [.val (.int 7), .stop, .stop] := by decide +kernel

/-- PStutter's state: held value `x`, `count_current = c`, `pos = p`. -/
def stSt (x : Val) (c p : Int) : St := { v0 := x, v1 := Val.int c, n0 := p }

theorem stutter_hold_step (rec : Rec) (kids : List Pat) (x : Val) {c p : Int} (h : p < c) :
    stepStutter rec kids (stSt x c p) = ⟨.val x, kids, stSt x c (p + 1)⟩ := by
  simp [stepStutter, stSt, numCmp_ge_int, Int.not_le.mpr h]

/-- At a block boundary `count` is resolved, then the next input value is taken. -/
theorem stutter_next_step {rec : Rec} {inp cnt : Pat} {x : Val} {c : Int} (x0 : Val) {c0 p0 : Int} (hb : c0 ≤ p0)
    (hc : (rec cnt).out = .val (Val.int c)) (hx : (rec inp).out = .val x) :
    stepStutter rec [inp, cnt] (stSt x0 c0 p0) = ⟨.val x, [(rec inp).p, (rec cnt).p], stSt x c 1⟩ := by
  simp [stepStutter, stSt, numCmp_ge_int, hb, stepKid_one, stepKid_zero, hc, hx]

theorem stutter_block_run {rec : Rec} {inp cnt : Pat} {x : Val} {c : Int} (x0 : Val) {c0 p0 : Int} (hb : c0 ≤ p0)
    (hc : (rec cnt).out = .val (Val.int c)) (hx : (rec inp).out = .val x) :
    Run stepStutter rec [inp, cnt] (stSt x0 c0 p0) ((List.replicate (max c 1).toNat x).map .val)
      [(rec inp).p, (rec cnt).p] (stSt x c (max c 1).toNat) := by
  rw [toNat_max_one, List.replicate_succ]
  refine .cons (stutter_next_step x0 hb hc hx)
    (.vals (fun _ => _) (fun i => stSt x c ((i + 1 : Nat) : Int)) _ List.length_replicate fun i y hy => ?_)
  obtain ⟨hi, rfl⟩ := List.getElem?_eq_some_iff.mp hy
  rw [List.length_replicate] at hi
  rw [List.getElem_replicate]
  exact stutter_hold_step rec _ x (Int.add_lt_of_lt_sub_right (Int.lt_toNat.mp hi))

theorem stutter_blocks_run (rec : Rec) (xs : List Val) :
    ∀ (cs : List Int) (inp cnt : Pat) (x0 : Val) (c0 p0 : Int), c0 ≤ p0 → cs.length = xs.length →
      recOuts rec xs.length inp = xs.map Out.val → recOuts rec xs.length cnt = cs.map (fun c => .val (Val.int c)) →
      ∃ x1 c1 p1, c1 ≤ p1 ∧
        Run stepStutter rec [inp, cnt] (stSt x0 c0 p0)
          ((List.zipWith (fun x c => List.replicate (max c 1).toNat x) xs cs).flatten.map .val)
          [recAfter rec xs.length inp, recAfter rec xs.length cnt] (stSt x1 c1 p1) := by
  induction xs with
  | nil => intro cs _ _ x0 c0 p0 hb _ _ _; exact ⟨x0, c0, p0, hb, .nil⟩
  | cons x xs ih =>
    intro cs inp cnt x0 c0 p0 hb hl hx hc
    cases cs with
    | nil => exact absurd hl (Nat.succ_ne_zero _).symm
    | cons c cs =>
      obtain ⟨hx0, hx⟩ := List.cons.inj hx
      obtain ⟨hc0, hc⟩ := List.cons.inj hc
      obtain ⟨x1, c1, p1, hb1, h⟩ := ih cs (rec inp).p (rec cnt).p x c (max c 1).toNat (le_toNat_max_one c) (Nat.succ.inj hl) hx hc
      refine ⟨x1, c1, p1, hb1, ?_⟩
      rw [List.zipWith_cons_cons, List.flatten_cons, List.map_append]
      exact (stutter_block_run x0 hb hc0 hx0).append h

/-- **PStutter with a pattern-valued count**: the `j`-th input value is played `max(count_j, 1)` times, the
    count being resolved once per block. -/
theorem stutter_blocks (rec : Rec) (xs : List Val) :
    ∀ (cs : List Int) (inp cnt : Pat) (x0 : Val) (c0 p0 : Int) (n : Nat), c0 ≤ p0 → cs.length = xs.length →
      recOuts rec xs.length inp = xs.map Out.val → recOuts rec xs.length cnt = cs.map (fun c => .val (Val.int c)) →
      ∃ x1 c1 p1, c1 ≤ p1 ∧
        clsOuts stepStutter rec (((List.zipWith (fun x c => List.replicate (max c 1).toNat x) xs cs).flatten).length + n)
            [inp, cnt] (stSt x0 c0 p0) =
          ((List.zipWith (fun x c => List.replicate (max c 1).toNat x) xs cs).flatten).map Out.val ++
            clsOuts stepStutter rec n [recAfter rec xs.length inp, recAfter rec xs.length cnt] (stSt x1 c1 p1) := by
  intro cs inp cnt x0 c0 p0 n hb hl hx hc
  obtain ⟨x1, c1, p1, hb1, h⟩ := stutter_blocks_run rec xs cs inp cnt x0 c0 p0 hb hl hx hc
  exact ⟨x1, c1, p1, hb1, by rw [← h n, List.length_map]⟩

section StutterConst
variable {rec : Rec} {cnt : Pat} {c : Int} (hc : ConstUnder rec cnt (Val.int c))

include hc in
theorem stutter_blocks_const (xs : List Val) (inp : Pat) (x0 : Val) {c0 p0 : Int} (hb : c0 ≤ p0)
    (hx : recOuts rec xs.length inp = xs.map Out.val) :
    ∃ x1 c1 p1, c1 ≤ p1 ∧
      Run stepStutter rec [inp, cnt] (stSt x0 c0 p0) ((xs.flatMap (List.replicate (max c 1).toNat)).map .val)
        [recAfter rec xs.length inp, cnt] (stSt x1 c1 p1) := by
  have := stutter_blocks_run rec xs (List.replicate xs.length c) inp cnt x0 c0 p0 hb List.length_replicate hx
    (by rw [recOuts_const hc, List.map_const', List.length_range, List.map_replicate])
  rwa [zipWith_replicate_right, recAfter_const hc] at this

include hc in
theorem stutter_dead (n : Nat) (inp : Pat) (hd : ∀ j, recOuts rec j inp = List.replicate j .stop) (x0 : Val) {c0 p0 : Int}
    (hb : c0 ≤ p0) : clsOuts stepStutter rec n [inp, cnt] (stSt x0 c0 p0) = List.replicate n .stop :=
  clsOuts_const (fun kids st => ∃ inp, kids = [inp, cnt] ∧ (∀ j, recOuts rec j inp = List.replicate j .stop) ∧ st = stSt x0 c0 p0)
    (by
      rintro _ _ ⟨inp, rfl, hd, rfl⟩
      have hstep : stepStutter rec [inp, cnt] (stSt x0 c0 p0) = ⟨.stop, [(rec inp).p, cnt], stSt x0 c0 p0⟩ := by
        simp [stepStutter, stSt, numCmp_ge_int, hb, stepKid_const hc, stepKid_zero,
          (dead_step hd).1]
      rw [hstep]
      exact ⟨rfl, _, rfl, (dead_step hd).2, rfl⟩)
    n _ _ ⟨inp, rfl, hd, rfl⟩
end StutterConst

/-- **PStutter(input, count)**, constant count: every input value is played `max(count, 1)` times; the pattern
    ends with its input. -/
theorem stutter_reference (rec : Rec) (inp cnt : Pat) (xs : List Val) (c : Int) (hc : ConstUnder rec cnt (Val.int c))
    (hin : ∀ j, recOuts rec (xs.length + j) inp = xs.map Out.val ++ List.replicate j .stop) (N : Nat) :
    clsOuts stepStutter rec N [inp, cnt] { v0 := Val.int 0, v1 := Val.int 0 } =
      pad N (xs.flatMap (List.replicate (max c 1).toNat)) := by
  obtain ⟨x1, c1, p1, hb1, h⟩ := stutter_blocks_const hc xs inp (Val.int 0) (Int.le_refl 0) (dead_after hin 0).1
  exact pad_of_run h (fun n => stutter_dead hc n _ (fun j => (dead_after hin j).2) x1 hb1) N

/-- For an endless input: the first `m` values, each `max(count, 1)` times. -/
theorem stutter_reference_prefix (rec : Rec) (inp cnt : Pat) (xs : List Val) (c : Int) (hc : ConstUnder rec cnt (Val.int c))
    (hin : recOuts rec xs.length inp = xs.map Out.val) :
    clsOuts stepStutter rec (xs.flatMap (List.replicate (max c 1).toNat)).length [inp, cnt]
        { v0 := Val.int 0, v1 := Val.int 0 } =
      (xs.flatMap (List.replicate (max c 1).toNat)).map Out.val := by
  obtain ⟨_, _, _, _, h⟩ := stutter_blocks_const hc xs inp (Val.int 0) (Int.le_refl 0) hin
  rw [← h.outs, List.length_map]
  rfl

example : clsOuts stepStutter (stepF 5) 8
    [.node .seq [Pat.const (.int 7), Pat.const (.int 8), Pat.const (.int 9)] { n0 := 1 }, Pat.const (.int 2)]
    { v0 := .int 0, v1 := .int 0 } =
    [.val (.int 7), .val (.int 7), .val (.int 8), .val (.int 8), .val (.int 9), .val (.int 9), .stop, .stop] := by decide +kernel

theorem fillBuf_take {rec : Rec} {inp : Pat} {vs : List Val} (hin : recOuts rec vs.length inp = vs.map Out.val) (tail : List Pat)
    {b k : Nat} (hbk : b + k ≤ vs.length) :
    fillBuf rec k (recAfter rec b inp :: tail) (vs.take b) = (.val Val.none, recAfter rec (b + k) inp :: tail, vs.take (b + k)) := by
  have hwl : ((vs.drop b).take k).length = k := by
    rw [List.length_take, List.length_drop]; exact Nat.min_eq_left (Nat.le_sub_of_add_le' hbk)
  have hws := recOuts_slice hin hbk
  rw [← List.map_drop, ← List.map_take] at hws
  have := fillBuf_vals rec tail _ (recAfter rec b inp) (vs.take b) 0 (by rw [hwl]; exact hws)
  rwa [hwl, recAfter_add, ← List.take_add] at this

/-- How many values a step has to read when `b` are in the cache and `b + k = offset + pos + 1` are needed. -/
theorem sub_count {i o b k : Nat} (h : o + i + 1 = b + k) : ((i : Int) + o + 1 - b).toNat = k := by omega

section Subsequence
variable {rec : Rec} {off len : Pat} {o : Nat} {l : Int} (hoff : ConstUnder rec off (Val.int o))
  (hlen : ConstUnder rec len (Val.int l))

include hoff hlen in
theorem sub_end (kid : Pat) (st : St) (h : l ≤ st.n0) :
    stepSubsequence rec [kid, off, len] st = ⟨.stop, [kid, off, len], st⟩ := by
  simp [stepSubsequence, stepKid_const (i := 1) hoff, stepKid_const (i := 2) hlen, numCmp_ge_int, h]

include hoff hlen in
/-- Before `length` is reached: the cache is filled up to `offset + pos + 1` values, then `values[offset + pos]`. -/
theorem sub_resolved (kid : Pat) (st : St) (h : st.n0 < l) :
    stepSubsequence rec [kid, off, len] st =
      subEmit (fillBuf rec (st.n0 + o + 1 - st.buf.length).toNat [kid, off, len] st.buf) (o + st.n0) st := by
  simp [stepSubsequence, stepKid_const (i := 1) hoff, stepKid_const (i := 2) hlen, numCmp_ge_int, Int.not_le.mpr h]

include hoff hlen in
/-- The input has the values `vs` to give, the first `b ≤ offset + pos` of them are in the cache: the step reads
    on up to `offset + pos + 1` values and returns the last of them. -/
theorem sub_step {inp : Pat} {vs : List Val} (hin : recOuts rec vs.length inp = vs.map Out.val) {i b : Nat} {x : Val}
    (hl : (i : Int) < l) (hb : b ≤ o + i) (hx : vs[o + i]? = some x) :
    stepSubsequence rec [recAfter rec b inp, off, len] { n0 := i, buf := vs.take b } =
      ⟨.val x, [recAfter rec (o + i + 1) inp, off, len], { n0 := (i + 1 : Nat), buf := vs.take (o + i + 1) }⟩ := by
  have hlt : o + i + 1 ≤ vs.length := (List.getElem?_eq_some_iff.mp hx).1
  obtain ⟨k, hk⟩ : ∃ k, o + i + 1 = b + k := Nat.exists_eq_add_of_le (Nat.le_succ_of_le hb)
  have hget : (vs.take (o + i + 1))[o + i]? = some x := by rw [List.getElem?_take, if_pos (Nat.lt_succ_self _)]; exact hx
  rw [hk] at hlt hget ⊢
  rw [sub_resolved hoff hlen (recAfter rec b inp) { n0 := i, buf := vs.take b } hl,
    List.length_take_of_le (Nat.le_trans (Nat.le_add_right b k) hlt), sub_count hk, fillBuf_take hin _ hlt]
  exact subEmit_val _ hget _

include hoff hlen in
theorem sub_dry {kid : Pat} {st : St} {ws : List Val} (hl : st.n0 < l)
    (hws : recOuts rec (ws.length + 1) kid = ws.map Out.val ++ [.stop])
    (hk : (st.buf.length : Int) + ws.length < st.n0 + o + 1) :
    stepSubsequence rec [kid, off, len] st =
      ⟨.stop, [recAfter rec (ws.length + 1) kid, off, len], { st with buf := st.buf ++ ws }⟩ := by
  obtain ⟨h1, h2⟩ := recOuts_then_stop hws
  obtain ⟨j, hj⟩ := Nat.exists_eq_add_of_lt (Int.lt_toNat.mpr (Int.lt_sub_left_of_add_lt hk))
  rw [sub_resolved hoff hlen kid st hl, hj, Nat.add_assoc, fillBuf_vals rec [off, len] ws kid st.buf _ h1,
    fillBuf_dry h2, ← recAfter_succ_last]
  rfl

include hoff hlen in
/-- The input is a finite one and cannot fill the cache far enough any more: the pattern has ended. -/
theorem sub_dry_forever (n : Nat) (kid : Pat) (st : St) (ws : List Val)
    (hin : ∀ j, recOuts rec (ws.length + j) kid = ws.map Out.val ++ List.replicate j .stop) (hl : st.n0 < l)
    (hk : (st.buf.length : Int) + ws.length < st.n0 + o + 1) :
    clsOuts stepSubsequence rec n [kid, off, len] st = List.replicate n .stop :=
  clsOuts_const (fun kids st => ∃ kid ws, kids = [kid, off, len] ∧
      (∀ j, recOuts rec (ws.length + j) kid = ws.map Out.val ++ List.replicate j .stop) ∧ st.n0 < l ∧
      (st.buf.length : Int) + ws.length < st.n0 + o + 1)
    (by
      rintro _ st ⟨kid, ws, rfl, hin, hl, hk⟩
      rw [sub_dry hoff hlen hl (hin 1) hk]
      refine ⟨rfl, _, [], rfl, fun j => ?_, hl, ?_⟩
      · rw [recAfter_succ_last, List.length_nil, Nat.zero_add]
        exact (dead_step fun j => (dead_after hin j).2).2 j
      · simpa only [List.length_append, List.length_nil, Int.natCast_add, Int.natCast_zero, Int.add_zero] using hk)
    -- `by exact`: checked once `kid` and `ws` are known, which is far cheaper
    n _ st ⟨kid, ws, rfl, hin, hl, by exact hk⟩

include hoff hlen in
/-- The first `d` values of the window, for an input that has the values `vs` to give; some of them are then
    in the cache. -/
theorem sub_run {inp : Pat} {vs : List Val} (hin : recOuts rec vs.length inp = vs.map Out.val) (d : Nat)
    (hd : d ≠ 0 → o + d ≤ vs.length ∧ d ≤ l.toNat) :
    ∃ b, b ≤ vs.length ∧ Run stepSubsequence rec [inp, off, len] {} (((vs.drop o).take d).map .val)
      [recAfter rec b inp, off, len] { n0 := d, buf := vs.take b } := by
  cases d with
  | zero => exact ⟨0, Nat.zero_le _, .nil⟩
  | succ d =>
    obtain ⟨hd1, hd2⟩ := hd (Nat.succ_ne_zero d)
    have hlt : o < vs.length := Nat.lt_of_lt_of_le (Nat.lt_add_of_pos_right (Nat.succ_pos d)) hd1
    have hn : ((vs.drop (o + 1)).take d).length = d :=
      List.length_take_of_le (by rw [List.length_drop]; exact Nat.le_sub_of_add_le' (by rwa [Nat.add_assoc, Nat.add_comm 1]))
    refine ⟨o + d + 1, hd1, ?_⟩
    rw [List.drop_eq_getElem_cons hlt, List.take_succ_cons, List.map_cons]
    -- the first step fills the cache up to `offset + 1`, every later one reads one more value
    refine .cons (sub_step hoff hlen hin (i := 0) (b := 0) (Int.lt_toNat.mp (Nat.lt_of_lt_of_le (Nat.succ_pos d) hd2))
        (Nat.zero_le _) (List.getElem?_eq_getElem hlt))
      (.vals (fun i => [recAfter rec (o + i + 1) inp, off, len]) (fun i => { n0 := (i + 1 : Nat), buf := vs.take (o + i + 1) }) _
        hn fun i x hx => ?_)
    have hi : i < d := hn ▸ (List.getElem?_eq_some_iff.mp hx).1
    rw [List.getElem?_take_of_lt hi, List.getElem?_drop, Nat.add_right_comm] at hx
    exact sub_step hoff hlen hin (i := i + 1) (Int.lt_toNat.mp (Nat.lt_of_lt_of_le (Nat.succ_lt_succ hi) hd2)) (Nat.le_refl _) hx

end Subsequence
/-- **PSubsequence(input, offset, length)**, constant parameters, an input with at least `offset + length`
    values `vs` (an endless input included): the outputs are `vs[offset : offset + length]`, then the end. -/
theorem subsequence_reference_enough (rec : Rec) (inp off len : Pat) (o : Nat) (l : Int) (hoff : ConstUnder rec off (Val.int o))
    (hlen : ConstUnder rec len (Val.int l)) (vs : List Val) (hvs : o + l.toNat ≤ vs.length)
    (hin : recOuts rec vs.length inp = vs.map Out.val) (N : Nat) :
    clsOuts stepSubsequence rec N [inp, off, len] {} = pad N ((vs.drop o).take l.toNat) :=
  have ⟨_, _, hrun⟩ := sub_run hoff hlen hin l.toNat fun _ => ⟨hvs, Nat.le_refl _⟩
  pad_of_run hrun (clsOuts_fixed (sub_end hoff hlen _ _ (Int.self_le_toNat l))) N

example : clsOuts stepSubsequence (stepF 5) 6
    [.node .series [Pat.const (.int 100), Pat.const (.int 1)] { v0 := .int 0, v1 := .int 0 }, Pat.const (.int 2), Pat.const (.int 4)] {} =
    [.val (.int 2), .val (.int 3), .val (.int 4), .val (.int 5), .stop, .stop] := by decide +kernel

/-- **PSubsequence(input, offset, length)**, constant parameters, ANY finite input (`xs`, then StopIteration for
    ever): the outputs are `xs[offset : offset + length]` — shorter than `length` when the input ends early —
    and then the end. -/
theorem subsequence_reference (rec : Rec) (inp off len : Pat) (o : Nat) (l : Int) (hoff : ConstUnder rec off (Val.int o))
    (hlen : ConstUnder rec len (Val.int l)) (xs : List Val)
    (hin : ∀ j, recOuts rec (xs.length + j) inp = xs.map Out.val ++ List.replicate j .stop) (N : Nat) :
    clsOuts stepSubsequence rec N [inp, off, len] {} = pad N ((xs.drop o).take l.toNat) := by
  have hxs := (dead_after hin 0).1
  by_cases hlong : o + l.toNat ≤ xs.length
  · exact subsequence_reference_enough rec inp off len o l hoff hlen xs hlong hxs N
  by_cases hl0 : 0 < l
  · -- the input ends inside the window: `d` values can still be delivered, the next call runs it dry
    obtain ⟨d, hd⟩ : ∃ d, d = xs.length - o := ⟨_, rfl⟩
    have ⟨h1, h2, h3, h4⟩ : (d ≠ 0 → o + d ≤ xs.length) ∧ (d : Int) < l ∧ d ≤ l.toNat ∧ xs.length < d + o + 1 := by omega
    obtain ⟨b, hb', hrun⟩ := sub_run hoff hlen hxs d fun h => ⟨h1 h, h3⟩
    rw [← List.length_drop] at hd
    rw [List.take_of_length_le (hd ▸ h3), ← List.take_of_length_le (Nat.le_of_eq hd.symm)]
    refine pad_of_run hrun (fun n => sub_dry_forever hoff hlen n _ _ (xs.drop b) (finite_after hin hb') h2 ?_) N
    rw [← Int.natCast_add, ← List.length_append, List.take_append_drop]
    exact Int.ofNat_lt.mpr h4
  · rw [Int.toNat_of_nonpos (Int.not_lt.mp hl0), List.take_zero, pad_nil]
    exact clsOuts_fixed (sub_end hoff hlen _ _ (Int.not_lt.mp hl0)) N

example : clsOuts stepSubsequence (stepF 5) 5
    [.node .seq [Pat.const (.int 5), Pat.const (.int 6), Pat.const (.int 7)] { n0 := 1 }, Pat.const (.int 1), Pat.const (.int 4)] {} =
    [.val (.int 6), .val (.int 7), .stop, .stop, .stop] := by decide +kernel

/-- PSequence's state: `repeats = r` (negative: endless), `pos = p`, `rcount = t`. -/
def sqSt (r : Int) (p : Nat) (t : Int) : St := { n0 := r, n1 := p, n2 := t }

theorem seq_end (rec : Rec) (kids : List Pat) (r t : Int) (h : kids = [] ∨ (0 ≤ r ∧ r ≤ t)) :
    stepSeq rec kids (sqSt r 0 t) = ⟨.stop, kids, sqSt r 0 t⟩ := by
  rcases h with h | h <;> simp [stepSeq, sqSt, h]

/-- The item at `pos` yields a value: it is the output; after the last item the next round begins. -/
theorem seq_step {rec : Rec} {r t : Int} (hopen : ¬ (0 ≤ r ∧ r ≤ t)) (done : List Pat) {k : Pat} (rest : List Pat) {v : Val}
    (hv : (rec k).out = .val v) :
    stepSeq rec (done ++ k :: rest) (sqSt r done.length t) =
      ⟨.val v, done ++ (rec k).p :: rest, if rest = [] then sqSt r 0 (t + 1) else sqSt r (done.length + 1) t⟩ := by
  have hk : stepKid rec (done ++ k :: rest) done.length = (.val v, done ++ (rec k).p :: rest) := by simp [stepKid, hv]
  cases rest <;> simp [stepSeq, sqSt, hopen, hk]

theorem seq_round_rest {rec : Rec} {r t : Int} (hopen : ¬ (0 ≤ r ∧ r ≤ t)) (todo : List Pat) :
    ∀ (done : List Pat) (vs : List Val), todo ≠ [] → todo.map (fun k => (rec k).out) = vs.map Out.val →
      Run stepSeq rec (done ++ todo) (sqSt r done.length t) (vs.map .val)
        (done ++ todo.map fun k => (rec k).p) (sqSt r 0 (t + 1)) := by
  induction todo with
  | nil => intro _ _ h; exact absurd rfl h
  | cons k rest ih =>
    intro done vs _ hv
    cases vs with
    | nil => cases hv
    | cons v vs =>
      obtain ⟨hkv, hvs⟩ := List.cons.inj hv
      have hstep := seq_step hopen done rest hkv
      by_cases hr : rest = []
      · subst hr
        obtain rfl := List.map_eq_nil_iff.mp hvs.symm
        exact .one hstep
      · rw [if_neg hr] at hstep
        have := ih (done ++ [(rec k).p]) vs hr hvs
        rw [List.append_assoc, List.append_assoc, List.length_append] at this
        exact .cons hstep this

/-- `m` rounds.  One `Run.flatMap` segment per round: round `j` is `seq_round_rest` from `kids.map (recAfter rec j)`,
    whose end point `(kids.map (recAfter rec j)).map fun k => (rec k).p` is `kids.map (recAfter rec (j + 1))`
    (`recAfter_succ_last`). -/
theorem seq_rounds {rec : Rec} {kids : List Pat} (hk : kids ≠ []) {r : Int} (m : Nat) (hr : r < 0 ∨ m ≤ r)
    (rows : Nat → List Val) (h : ∀ t < m, kids.map (fun k => (rec (recAfter rec t k)).out) = (rows t).map Out.val) :
    Run stepSeq rec kids (sqSt r 0 0) (((List.range m).flatMap rows).map .val) (kids.map (recAfter rec m)) (sqSt r 0 m) := by
  have := Run.flatMap (step := stepSeq) (rec := rec) (fun j => kids.map (recAfter rec j)) (fun j => sqSt r 0 j)
    (fun j => (rows j).map .val) m (fun j hj => by
      have := seq_round_rest (r := r) (t := j)
        (fun h => hr.elim (fun h0 => Int.not_le.mpr h0 h.1) fun hm => Nat.not_le.mpr hj (Int.ofNat_le.mp (Int.le_trans hm h.2)))
        (kids.map (recAfter rec j)) [] (rows j) (by simpa using hk) (by rw [List.map_map]; exact h j hj)
      rwa [List.map_map, List.map_congr_left (f := (fun k => (rec k).p) ∘ recAfter rec j)
        (g := recAfter rec (j + 1)) fun k _ => (recAfter_succ_last rec j k).symm] at this)
  rw [List.map_id'' (f := recAfter rec 0) (fun _ => rfl) kids] at this
  rwa [List.map_flatMap]

/-- **PSequence(items, repeats)** with items that are themselves patterns: in round `t` (`t < repeats`) every
    item contributes its `t`-th value, in order (`rows t`); after `repeats` rounds the sequence has ended. -/
theorem seq_reference (rec : Rec) (kids : List Pat) (r : Nat) (rows : Nat → List Val)
    (h : ∀ t < r, kids.map (fun k => (rec (recAfter rec t k)).out) = (rows t).map Out.val) (N : Nat) :
    clsOuts stepSeq rec N kids { n0 := r } = pad N ((List.range r).flatMap rows) := by
  by_cases hk : kids = []
  · subst hk
    have : (List.range r).flatMap rows = [] :=
      List.flatMap_eq_nil_iff.mpr fun t ht => (List.map_eq_nil_iff.mp (h t (List.mem_range.mp ht)).symm)
    rw [this, pad_nil]
    exact clsOuts_fixed (seq_end rec [] r 0 (.inl rfl)) N
  · exact pad_of_run (seq_rounds hk r (.inr (Int.le_refl _)) rows h)
      (clsOuts_fixed (seq_end rec _ r r (.inr ⟨Int.natCast_nonneg r, Int.le_refl _⟩))) N

/-- The items `kids` are the constants `vs`. -/
inductive ConstItems (rec : Rec) : List Pat → List Val → Prop where
  | nil : ConstItems rec [] []
  | cons {k : Pat} {v : Val} {ks : List Pat} {vs : List Val} :
      ConstUnder rec k v → ConstItems rec ks vs → ConstItems rec (k :: ks) (v :: vs)

theorem const_row {rec : Rec} {kids : List Pat} {vs : List Val} (h : ConstItems rec kids vs) (t : Nat) :
    kids.map (fun k => (rec (recAfter rec t k)).out) = vs.map Out.val := by
  induction h with
  | nil => rfl
  | cons hk _ ih => rw [List.map_cons, ih, recAfter_const hk t, show rec _ = _ from hk]; rfl

/-- **PSequence of constants**, closed form: the list, `repeats` times. -/
theorem seq_reference_const (rec : Rec) (kids : List Pat) (vs : List Val) (r : Nat)
    (h : ConstItems rec kids vs) (N : Nat) :
    clsOuts stepSeq rec N kids { n0 := r } = pad N (List.replicate r vs).flatten := by
  rw [seq_reference rec kids r (fun _ => vs) (fun t _ => const_row h t) N, List.flatMap_def, List.map_const',
    List.length_range]

/-- **Endless PSequence** (`repeats = sys.maxsize`, register −1): `m` rounds, item `j` contributing its `t`-th
    value in round `t`. -/
theorem seq_reference_endless (rec : Rec) (kids : List Pat) (hk : kids ≠ []) (m : Nat) (rows : Nat → List Val)
    (h : ∀ t < m, kids.map (fun k => (rec (recAfter rec t k)).out) = (rows t).map Out.val) :
    clsOuts stepSeq rec (m * kids.length) kids { n0 := -1 } = ((List.range m).flatMap rows).map Out.val := by
  have hlen := length_flatMap_range rows m kids.length fun t ht => by
    have := congrArg List.length (h t ht)
    rwa [List.length_map, List.length_map, eq_comm] at this
  rw [← hlen, ← List.length_map (f := Out.val)]
  exact (seq_rounds hk m (.inl (by decide)) rows h).outs

example : clsOuts stepSeq (stepF 5) 8
    [Pat.const (.int 1), .node .seq [Pat.const (.int 7), Pat.const (.int 8)] { n0 := 1 }, Pat.const (.int 3)] { n0 := 2 } =
    [.val (.int 1), .val (.int 7), .val (.int 3), .val (.int 1), .val (.int 8), .val (.int 3), .stop, .stop] := by decide +kernel

/-- With enough fuel to reach the end of the list, the amount of fuel does not matter. -/
theorem concatLoop_fuel (rec : Rec) (f1 : Nat) :
    ∀ (f2 : Nat) (kids : List Pat) (pos : Nat), kids.length - pos < f1 → kids.length - pos < f2 →
      concatLoop rec f1 kids pos = concatLoop rec f2 kids pos := by
  induction f1 with
  | zero => intro f2 kids pos h; exact absurd h (Nat.not_lt_zero _)
  | succ f1 ih =>
    intro f2 kids pos h1 h2
    cases f2 with
    | zero => exact absurd h2 (Nat.not_lt_zero _)
    | succ f2 =>
      simp only [concatLoop]
      cases hk : kids[pos]? with
      | none => rfl
      | some k =>
        simp only []
        cases ho : (rec k).out with
        | stop =>
          simp only []
          by_cases hp : pos + 1 < kids.length
          · have hlt : ∀ f, kids.length - pos < f + 1 → (kids.set pos (rec k).p).length - (pos + 1) < f := fun f h => by
              rw [List.length_set]
              exact Nat.lt_of_lt_of_le (Nat.sub_succ_lt_self _ _ (Nat.lt_of_succ_lt hp)) (Nat.le_of_lt_succ h)
            simp only [hp, if_true]
            exact ih f2 _ (pos + 1) (hlt f1 h1) (hlt f2 h2)
          · simp only [hp, if_false]
        | val v => rfl
        | err e => rfl

/-- PConcatenate at input number `p`. -/
def cnSt (p : Nat) : St := { n0 := p }

section Concat
variable {rec : Rec} (done : List Pat) {k : Pat}

theorem concat_step_val (rest : List Pat) {v : Val} (h : (rec k).out = .val v) :
    stepConcat rec (done ++ k :: rest) (cnSt done.length) = ⟨.val v, done ++ (rec k).p :: rest, cnSt done.length⟩ := by
  simp [stepConcat, cnSt, concatLoop, h]

theorem concat_step_last (h : (rec k).out = .stop) :
    stepConcat rec (done ++ [k]) (cnSt done.length) = ⟨.stop, done ++ [(rec k).p], cnSt done.length⟩ := by
  simp [stepConcat, cnSt, concatLoop, h]

/-- The current input has ended and is not the last: the step is the step taken from the next input. -/
theorem concat_step_skip (k2 : Pat) (rest : List Pat) (h : (rec k).out = .stop) :
    stepConcat rec (done ++ k :: k2 :: rest) (cnSt done.length) =
      stepConcat rec ((done ++ [(rec k).p]) ++ k2 :: rest) (cnSt (done ++ [(rec k).p]).length) := by
  -- one iteration of the loop moves on to `k2`; the two calls then differ in their fuel only (`concatLoop_fuel`)
  have e : concatLoop rec ((done ++ k :: k2 :: rest).length + 1) (done ++ k :: k2 :: rest) done.length =
      concatLoop rec ((done ++ [(rec k).p] ++ k2 :: rest).length + 1) (done ++ [(rec k).p] ++ k2 :: rest) (done.length + 1) := by
    rw [concatLoop]
    simp only [List.getElem?_append_right (Nat.le_refl _), Nat.sub_self, List.getElem?_cons_zero, h, List.length_append,
      List.length_cons, List.set_append_right _ _ (Nat.le_refl _), List.set_cons_zero]
    rw [if_pos (by omega)]
    simp only [List.append_assoc, List.cons_append, List.nil_append]
    exact concatLoop_fuel rec _ _ _ _ (by simp; omega) (by simp; omega)
  simp only [stepConcat, cnSt, Int.toNat_natCast]
  rw [e, List.length_append (as := done), List.length_singleton]

theorem concat_cur (rest : List Pat) (ws : List Val) : ∀ (k : Pat), recOuts rec ws.length k = ws.map Out.val →
    Run stepConcat rec (done ++ k :: rest) (cnSt done.length) (ws.map .val)
      (done ++ recAfter rec ws.length k :: rest) (cnSt done.length) := by
  induction ws with
  | nil => intro _ _; exact .nil
  | cons w ws ih =>
    intro k h
    obtain ⟨hw, hws⟩ := List.cons.inj h
    exact .cons (concat_step_val done rest hw) (ih (rec k).p hws)
end Concat

/-- Every input is a finite pattern (`todo` pairs it with its values): the inputs' values one input after the
    other, then the first StopIteration. -/
theorem concat_run (rec : Rec) (todo : List (Pat × List Val)) :
    ∀ (done : List Pat), todo ≠ [] →
      (∀ e ∈ todo, recOuts rec (e.2.length + 1) e.1 = e.2.map Out.val ++ [.stop]) →
      ∃ kids' st', Run stepConcat rec (done ++ todo.map Prod.fst) (cnSt done.length)
        ((todo.flatMap Prod.snd).map .val ++ [.stop]) kids' st' := by
  induction todo with
  | nil => intro _ h; exact absurd rfl h
  | cons e rest ih =>
    intro done _ hall
    obtain ⟨hvals, hstop⟩ := recOuts_then_stop (hall e List.mem_cons_self)
    have hcur := concat_cur done (rest.map Prod.fst) e.2 e.1 hvals
    rw [List.flatMap_cons, List.map_append, List.append_assoc]
    cases rest with
    | nil => exact ⟨_, _, hcur.append (.one (concat_step_last done hstop))⟩
    | cons e2 rest2 =>
      obtain ⟨kids', st', h⟩ := ih (done ++ [(rec (recAfter rec e.2.length e.1)).p]) (List.cons_ne_nil _ _)
        fun e' he' => hall e' (List.mem_cons_of_mem _ he')
      exact ⟨kids', st', (hcur.of_eq (clsOuts_congr (concat_step_skip done _ _ hstop))).append h⟩

/-- **PConcatenate(inputs)**, up to and including the first StopIteration.  (What follows it depends on the
    LAST input staying exhausted, which is C09: `PConcatenate` polls its last input again.) -/
theorem concat_reference (rec : Rec) (todo : List (Pat × List Val)) (hne : todo ≠ [])
    (h : ∀ e ∈ todo, recOuts rec (e.2.length + 1) e.1 = e.2.map Out.val ++ [.stop]) :
    clsOuts stepConcat rec ((todo.flatMap Prod.snd).length + 1) (todo.map Prod.fst) {} =
      (todo.flatMap Prod.snd).map Out.val ++ [.stop] := by
  obtain ⟨_, _, hrun⟩ := concat_run rec todo [] hne h
  rw [← hrun.outs, List.length_append, List.length_map]
  rfl

example : clsOuts stepConcat (stepF 5) 5
    [.node .seq [Pat.const (.int 1), Pat.const (.int 2)] { n0 := 1 }, .node .seq [] { n0 := 1 },
     .node .seq [Pat.const (.int 3)] { n0 := 1 }] {} =
    [.val (.int 1), .val (.int 2), .val (.int 3), .stop, .stop] := by decide +kernel

/-- Any shorter run of a concatenation of finite inputs is a prefix of the full run. -/
theorem concat_reference_prefix (rec : Rec) (todo : List (Pat × List Val)) (hne : todo ≠ [])
    (h : ∀ e ∈ todo, recOuts rec (e.2.length + 1) e.1 = e.2.map Out.val ++ [.stop]) (N : Nat)
    (hN : N ≤ (todo.flatMap Prod.snd).length + 1) :
    clsOuts stepConcat rec N (todo.map Prod.fst) {} = ((todo.flatMap Prod.snd).map Out.val ++ [Out.stop]).take N := by
  obtain ⟨m, hm⟩ : ∃ m, N + m = (todo.flatMap Prod.snd).length + 1 := ⟨_, Nat.add_sub_cancel' hN⟩
  rw [clsOuts_take stepConcat rec N m, hm, concat_reference rec todo hne h]

/-- PCreep's state: `buffer = b`, `pos = p`, `rcount = q`. -/
def crSt (b : List Val) (p : Nat) (q : Int) : St := { n0 := p, n1 := q, buf := b }

/-- Constant parameters `length = len`, `creep = cr`, `repeats = rp`, `prob = pr`. -/
structure CreepConst (rec : Rec) (lk ck rk pk : Pat) (len cr rp : Int) (pr : Val) : Prop where
  hl : ConstUnder rec lk (Val.int len)
  hc : ConstUnder rec ck (Val.int cr)
  hr : ConstUnder rec rk (Val.int rp)
  hp : ConstUnder rec pk pr

section Creep
variable {rec : Rec} {lk ck rk pk : Pat} {len cr rp : Int} {pr : Val} (h : CreepConst rec lk ck rk pk len cr rp pr)

include h in
theorem creep_resolved (inp : Pat) (st : St) :
    stepCreep rec [inp, lk, ck, rk, pk] st =
      creepAfterFill rec len cr (Val.int rp) pr
        (fillBuf rec (len - st.buf.length).toNat [inp, lk, ck, rk, pk] st.buf) st := by
  have hS : stepKidsSeq rec [1, 2, 3, 4] [inp, lk, ck, rk, pk] [] =
      (.val Val.none, [inp, lk, ck, rk, pk], [Val.int len, Val.int cr, Val.int rp, pr]) := by
    simp [stepKidsSeq, stepKid_const (i := 1) h.hl, stepKid_const (i := 2) h.hc, stepKid_const (i := 3) h.hr, stepKid_const (i := 4) h.hp]
  simp only [stepCreep, hS, Val.int]

include h in
/-- The input has the values `ws` that are missing for a full window: after the fill loop the buffer is the window. -/
theorem creep_filled (inp : Pat) (st : St) (ws : List Val) (hws : recOuts rec ws.length inp = ws.map Out.val)
    (hlen : ((st.buf ++ ws).length : Int) = len) :
    stepCreep rec [inp, lk, ck, rk, pk] st =
      creepMain rec cr (Val.int rp) pr [recAfter rec ws.length inp, lk, ck, rk, pk] (st.buf ++ ws) st := by
  have hd : (st.buf ++ ws).length - len.toNat = 0 := by rw [← hlen, Int.toNat_natCast, Nat.sub_self]
  have hneg : ¬ len < 0 := hlen ▸ Int.not_lt.mpr (Int.natCast_nonneg _)
  have e : (len - (st.buf.length : Int)).toNat = ws.length + 0 := by
    rw [← hlen, List.length_append, Int.natCast_add, Int.add_comm, Int.add_sub_cancel, Int.toNat_natCast]; rfl
  rw [creep_resolved h, e, fillBuf_vals rec _ ws inp st.buf 0 hws]
  simp only [fillBuf, creepAfterFill, hneg, if_false, hd, List.drop_zero]

/-- Inside the window: `buffer[pos]`. -/
theorem creepMain_in {kids : List Pat} {b : List Val} {p : Nat} {x : Val} (hx : b[p]? = some x) (q : Int) (b0 : List Val)
    (rpv : Val) :
    creepMain rec cr rpv pr kids b (crSt b0 p q) = ⟨.val x, kids, crSt b (p + 1) q⟩ := by
  have hp : ¬ b.length ≤ p := Nat.not_le.mpr (List.getElem?_eq_some_iff.mp hx).1
  simp only [creepMain, crSt, Int.toNat_natCast, ge_iff_le, hp, if_false]
  exact creepEmit_val hx q _

/-- At the end of the window with repeats left: the window starts again. -/
theorem creepMain_repeat (hpr : creepRepeat pr = .val (.a (.bool true))) {kids : List Pat} {b : List Val} {q : Int} (hq : q < rp)
    {x : Val} (hx : b[0]? = some x) (b0 : List Val) :
    creepMain rec cr (Val.int rp) pr kids b (crSt b0 b.length q) = ⟨.val x, kids, crSt b 1 (q + 1)⟩ := by
  simp only [creepMain, crSt, Int.toNat_natCast, ge_iff_le, Nat.le_refl, if_true, hpr, numCmp_ge_int,
    Int.not_le.mpr hq, decide_false, Bool.not_true, Bool.or_self, Bool.false_eq_true, if_false]
  exact creepEmit_val hx _ _

/-- At the end of the window with no repeats left: the window creeps forward by `creep` input values. -/
theorem creepMain_creep (hpr : creepRepeat pr = .val (.a (.bool true))) {inp : Pat} {tail : List Pat} {b : List Val} {q : Int}
    (hq : rp ≤ q) {ws : List Val} (hws : (ws.length : Int) = cr) (hwb : b ≠ [])
    (hin : recOuts rec ws.length inp = ws.map Out.val) {x : Val} (hx : ((b ++ ws).drop ws.length)[0]? = some x) (b0 : List Val) :
    creepMain rec cr (Val.int rp) pr (inp :: tail) b (crSt b0 b.length q) =
      ⟨.val x, recAfter rec ws.length inp :: tail, crSt ((b ++ ws).drop ws.length) 1 1⟩ := by
  have hcr : cr.toNat = ws.length := by rw [← hws, Int.toNat_natCast]
  simp only [creepMain, crSt, Int.toNat_natCast, ge_iff_le, Nat.le_refl, if_true, hpr, numCmp_ge_int, hq, decide_true,
    Bool.true_or, hcr, creepLoop_vals rec tail ws inp b hwb hin, creepAfterLoop]
  exact creepEmit_val hx _ _

include h in
/-- With a full window nothing is read before the main part. -/
theorem creep_full (inp : Pat) (b : List Val) (hb : (b.length : Int) = len) (p : Nat) (q : Int) :
    stepCreep rec [inp, lk, ck, rk, pk] (crSt b p q) =
      creepMain rec cr (Val.int rp) pr [inp, lk, ck, rk, pk] b (crSt b p q) := by
  have := creep_filled h inp (crSt b p q) [] rfl (by rw [List.append_nil]; exact hb)
  rwa [List.append_nil] at this

include h in
theorem creep_pass (inp : Pat) (b : List Val) (hb : (b.length : Int) = len) (q : Int) {p : Nat} (hp : p ≤ b.length) :
    Run stepCreep rec [inp, lk, ck, rk, pk] (crSt b p q) ((b.drop p).map .val) [inp, lk, ck, rk, pk] (crSt b b.length q) :=
  .walk (fun i => crSt b i q) b hp rfl fun i x hx => by rw [creep_full h inp b hb, creepMain_in hx]

include h in
/-- A window `b` whose first value has just been played (the step that did so also set `pos = 1` and
    `rcount = 1`) is played to its end and then `max(repeats, 1) - 1` more times. -/
theorem creep_window {kids : List Pat} {st : St} {inp : Pat} {b : List Val} {x : Val}
    (hpr : creepRepeat pr = .val (.a (.bool true))) (hb : (b.length : Int) = len) (hx : b[0]? = some x)
    (hfirst : stepCreep rec kids st = ⟨.val x, [inp, lk, ck, rk, pk], crSt b 1 1⟩) :
    Run stepCreep rec kids st ((List.replicate (max rp 1).toNat b).flatten.map .val)
      [inp, lk, ck, rk, pk] (crSt b b.length (max rp 1).toNat) := by
  have hpos : 0 < b.length := (List.getElem?_eq_some_iff.mp hx).1
  have hb1 : b.map Out.val = .val x :: (b.drop 1).map .val := by
    cases b with
    | nil => exact absurd hpos (Nat.lt_irrefl 0)
    | cons y t => rw [Option.some.inj hx]; rfl
  rw [toNat_max_one, List.replicate_succ, List.flatten_cons, List.map_append, hb1]
  refine (Run.cons hfirst (creep_pass h inp b hb 1 hpos)).append ?_
  refine .replicate (fun i => crSt b b.length ((i + 1 : Nat) : Int)) b _ fun i hi => ?_
  rw [hb1]
  refine .cons ?_ (creep_pass h inp b hb _ hpos)
  rw [creep_full h inp b hb, creepMain_repeat hpr (q := (i + 1 : Nat)) (Int.add_lt_of_lt_sub_right (Int.lt_toNat.mp hi)) hx]
  rfl

end Creep

/-- The successive windows: every chunk of `creep` new input values slides the window forward. -/
def windows (b : List Val) : List (List Val) → List (List Val)
  | [] => []
  | c :: cs => (b ++ c).drop c.length :: windows ((b ++ c).drop c.length) cs

theorem length_slide (b c : List Val) : ((b ++ c).drop c.length).length = b.length := by
  rw [List.length_drop, List.length_append, Nat.add_sub_cancel]

/-- The windows all have the length of the first, so `k + 1` of them played `m` times each make
    `(k + 1) · (m · length)` values. -/
theorem length_windows (m : Nat) (chunks : List (List Val)) : ∀ (b : List Val),
    ((b :: windows b chunks).flatMap fun w => (List.replicate m w).flatten).length = (chunks.length + 1) * (m * b.length) := by
  induction chunks with
  | nil => intro b; simp [windows]
  | cons c cs ih =>
    intro b
    rw [windows, List.flatMap_cons, List.length_append, ih, length_slide, List.length_cons, Nat.succ_mul (cs.length + 1)]
    simp [Nat.add_comm]

section CreepWindows
variable {rec : Rec} {lk ck rk pk : Pat} {len cr rp : Int} {pr : Val}
  (h : CreepConst rec lk ck rk pk len cr rp pr) (hpr : creepRepeat pr = .val (.a (.bool true)))

include h hpr in
/-- All the windows the input has chunks for, from the end of a window whose repeats are used up. -/
theorem creep_windows (chunks : List (List Val)) :
    ∀ (inp : Pat) (b : List Val) (q : Int), (b.length : Int) = len → b ≠ [] → rp ≤ q →
      (∀ c ∈ chunks, (c.length : Int) = cr) → recOuts rec chunks.flatten.length inp = chunks.flatten.map Out.val →
      ∃ kids' st', Run stepCreep rec [inp, lk, ck, rk, pk] (crSt b b.length q)
        (((windows b chunks).flatMap fun w => (List.replicate (max rp 1).toNat w).flatten).map .val) kids' st' := by
  induction chunks with
  | nil => intro inp b q _ _ _ _ _; exact ⟨_, _, .nil⟩
  | cons c cs ih =>
    intro inp b q hb hne hq hcs hin
    obtain ⟨hin1, hin2⟩ := recOuts_append hin
    have hlen' := length_slide b c
    have hpos : 0 < ((b ++ c).drop c.length).length := by rw [hlen']; exact List.length_pos_iff.mpr hne
    have hx := List.getElem?_eq_getElem hpos
    have hfirst : stepCreep rec [inp, lk, ck, rk, pk] (crSt b b.length q) =
        ⟨.val ((b ++ c).drop c.length)[0], [recAfter rec c.length inp, lk, ck, rk, pk], crSt ((b ++ c).drop c.length) 1 1⟩ := by
      rw [creep_full h inp b hb, creepMain_creep hpr hq (hcs c List.mem_cons_self) hne hin1 hx]
    have hwin := creep_window h hpr (by rw [hlen']; exact hb) hx hfirst
    obtain ⟨kids', st', hrest⟩ := ih (recAfter rec c.length inp) ((b ++ c).drop c.length) (max rp 1).toNat (by rw [hlen']; exact hb)
      (List.ne_nil_of_length_pos hpos) (le_toNat_max_one rp) (fun c' hc' => hcs c' (List.mem_cons_of_mem _ hc')) hin2
    rw [windows, List.flatMap_cons, List.map_append]
    exact ⟨kids', st', hwin.append hrest⟩

include h hpr in
/-- **PCreep(input, length, creep, repeats)**, constant parameters, `prob ≥ 1`, `length ≥ 1`: the first `length`
    input values form the window; every window is played `max(repeats, 1)` times and then slides forward by `creep`
    values (`windows`; `windows_slices`: window `i` is `input[i·creep : i·creep + length]`).
    Covered: as many windows as the input has chunks for.  Not covered: the step at which the creep loop meets the
    input's StopIteration (what follows it is `C09Seq1.creep_sticky_fix`), and `prob < 1` — `prob ≤ 0` never repeats,
    `0 < prob < 1` draws from the pattern's generator, for which this model has no tape (`creepRepeat`). -/
theorem creep_reference_partial (inp : Pat) (w0 : List Val) (chunks : List (List Val)) (hw : (w0.length : Int) = len) (hne : w0 ≠ [])
    (hcs : ∀ c ∈ chunks, (c.length : Int) = cr)
    (hin : recOuts rec (w0 ++ chunks.flatten).length inp = (w0 ++ chunks.flatten).map Out.val) :
    clsOuts stepCreep rec ((chunks.length + 1) * ((max rp 1).toNat * w0.length)) [inp, lk, ck, rk, pk] { n1 := 1 } =
      ((w0 :: windows w0 chunks).flatMap (fun w => (List.replicate (max rp 1).toNat w).flatten)).map Out.val := by
  obtain ⟨hin1, hin2⟩ := recOuts_append hin
  have hpos := List.length_pos_iff.mpr hne
  have hx := List.getElem?_eq_getElem hpos
  -- the first call fills the window
  have hfirst : stepCreep rec [inp, lk, ck, rk, pk] (crSt [] 0 1) =
      ⟨.val w0[0], [recAfter rec w0.length inp, lk, ck, rk, pk], crSt w0 1 1⟩ :=
    (creep_filled h inp (crSt [] 0 1) w0 hin1 hw).trans (creepMain_in hx 1 [] _)
  obtain ⟨_, _, hrest⟩ := creep_windows h hpr chunks (recAfter rec w0.length inp) w0 (max rp 1).toNat hw hne (le_toNat_max_one rp) hcs hin2
  have hrun := (creep_window h hpr hw hx hfirst).append hrest
  rw [← List.map_append, ← List.flatMap_cons (f := fun w => (List.replicate (max rp 1).toNat w).flatten)] at hrun
  rw [← hrun.outs, List.length_map, length_windows]
  rfl

end CreepWindows

theorem creepRepeat_one : creepRepeat (Val.int 1) = .val (.a (.bool true)) := by decide

example : clsOuts stepCreep (stepF 5) 12
    [.node .series [Pat.const (.int 100), Pat.const (.int 1)] { v0 := .int 0, v1 := .int 0 },
     Pat.const (.int 3), Pat.const (.int 1), Pat.const (.int 2), Pat.const (.int 1)] { n1 := 1 } =
    [.val (.int 0), .val (.int 1), .val (.int 2), .val (.int 0), .val (.int 1), .val (.int 2),
     .val (.int 1), .val (.int 2), .val (.int 3), .val (.int 1), .val (.int 2), .val (.int 3)] := by decide +kernel

/-- **The windows are slices of the input**: window `i` is `input[i·creep : i·creep + length]`. -/
theorem windows_slices (C L : Nat) (chunks : List (List Val)) :
    ∀ (w0 : List Val), w0.length = L → (∀ c ∈ chunks, c.length = C) →
      w0 :: windows w0 chunks =
        (List.range (chunks.length + 1)).map (fun i => ((w0 ++ chunks.flatten).drop (i * C)).take L) := by
  induction chunks with
  | nil => intro w0 hw _; simp [windows, ← hw]
  | cons c cs ih =>
    intro w0 hw hcs
    have hc : c.length = C := hcs c (by simp)
    have hw1 : ((w0 ++ c).drop c.length).length = L := by simp [hw]
    have := ih ((w0 ++ c).drop c.length) hw1 (fun c' hc' => hcs c' (by simp [hc']))
    rw [List.length_cons, range_succ_map]
    simp only [windows, List.flatten_cons, Nat.zero_mul, List.drop_zero, List.cons.injEq]
    refine ⟨by rw [List.take_append_of_le_length (by omega)]; simp [← hw], ?_⟩
    rw [this]
    apply List.map_congr_left
    intro i _
    have e : (w0 ++ (c ++ cs.flatten)).drop ((i + 1) * C) = (List.drop c.length (w0 ++ c) ++ cs.flatten).drop (i * C) := by
      rw [Nat.succ_mul, Nat.add_comm, ← List.drop_drop, ← hc, ← List.append_assoc,
        List.drop_append_of_le_length (by simp)]
    rw [e]
end IsobarV.C10Seq1
