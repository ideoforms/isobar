/-
C06 — track lifecycle: counts, completion, removal, stop-when-done, limits, names.
-/
import IsobarV.Sched.Solo
import IsobarV.Sched.LenInv

namespace IsobarV.C06
open IsobarV.Sched

/-- **Event count.**  A pull never takes the count past a non-zero limit, and every pulled event raises
    it by exactly one (count `0` = unbounded) … -/
theorem count_bounded (W : World) (t : Track) (h : t.maxCount ≠ 0 → t.count ≤ t.maxCount) :
    (t.maxCount ≠ 0 → (t.getNext W).t.count ≤ t.maxCount) ∧ (t.getNext W).t.maxCount = t.maxCount ∧
    (∀ d a k, (t.getNext W).r = .ev d a k → (t.getNext W).t.count = t.count + 1 ∧ (t.getNext W).t.pos = t.pos + 1) := by
  rcases getNext_cases W t with ⟨e, _⟩ | ⟨p, e, _⟩ | ⟨d, a, k, e, _, hlim⟩
  · rw [e]; exact ⟨h, rfl, fun _ _ _ hr => nomatch hr⟩
  · rw [e]; exact ⟨h, rfl, fun _ _ _ hr => nomatch hr⟩
  · rw [e]
    exact ⟨fun hm => Nat.lt_of_not_le fun hle => hlim ⟨hm, hle⟩, rfl, fun _ _ _ _ => ⟨rfl, rfl⟩⟩

/-- … and once the limit is reached every further pull is a StopIteration that consumes nothing. -/
theorem count_limit_stops (W : World) (t : Track) (hm : t.maxCount ≠ 0) (hc : t.maxCount ≤ t.count) :
    (t.getNext W).r = .stop ∧ (t.getNext W).t = t := by
  simp [Track.getNext, hm, hc]

/-- The pull loop as a whole respects the limit: a track performs at most `maxCount` events. -/
theorem pullLoop_count_bounded (W : World) (q fuel : Nat) (t : Track) (last : Pull)
    (h : t.maxCount ≠ 0 → t.count ≤ t.maxCount) :
    (Track.pullLoop W q fuel t last).t.maxCount = t.maxCount ∧
    (t.maxCount ≠ 0 → (Track.pullLoop W q fuel t last).t.count ≤ t.maxCount) := by
  have ⟨⟨i1, i2⟩, _⟩ := pullLoop_inv (q := q) (S := fun _ => True)
    (I := fun u => u.maxCount = t.maxCount ∧ (u.maxCount ≠ 0 → u.count ≤ u.maxCount))
    (fun u ⟨hm, hc⟩ => have ⟨g1, g2, _⟩ := count_bounded W u hc; ⟨⟨g2.trans hm, g2.symm ▸ g1⟩, fun _ => trivial⟩)
    (fun _ _ hu => hu) fuel t last ⟨rfl, h⟩ (fun _ => Or.inr trivial)
  exact ⟨i1, i1 ▸ i2⟩

/-- **Exhaustion is sticky and consumes nothing**: at the end of its stream a track's pull is a
    StopIteration that leaves the track as it was (so a drained track stays drained while it waits for
    its last notes to end). -/
theorem exhausted_stays (W : World) (t : Track) (h : W t.sid t.pos = none) :
    (t.getNext W).r = .stop ∧ (t.getNext W).t = t := by
  unfold Track.getNext; split <;> simp [h]

/-- **Completion**: the end-of-tick bookkeeping marks a track finished exactly when a StopIteration
    was caught while none of its notes is sounding (the "iff" is the equation for `t'.finished`) … -/
theorem finished_iff (tl : TL) (tid : Nat) (t : Track) (stopped : Bool) (hf : tl.find tid = some t) :
    ∃ t', (endTick tl tid stopped).find tid = some t' ∧
      t'.finished = (t.finished || (stopped && t.offs.isEmpty)) ∧ t'.cur = t.cur + 1 ∧ t'.offs = t.offs := by
  have hid : (endSolo t stopped).id = tid := findTrack_id (u := t) hf
  refine ⟨endSolo t stopped, ?_, ?_, rfl, rfl⟩
  · rw [endTick_solo _ _ _ _ hf, ← hid]
    exact find_setTrack (hid ▸ hf)
  · cases stopped <;> simp [endSolo]

/-- … and **removal**: after its tick a track is dropped from the timeline iff it is finished and was
    scheduled with remove-when-done; otherwise the timeline is unchanged (by definition of `dropFinished`). -/
theorem removal_rule (tl : TL) (tid : Nat) :
    dropFinished tl tid =
      (match tl.find tid with
       | some t => if t.finished = true ∧ t.rwd = true then tl.removeTrack tid else tl
       | none => tl) := rfl

/-- **Stop-when-done**: a tick raises StopIteration iff, at its end, no track and no pending start
    is left and stop-when-done is set — never when it is off. -/
theorem stop_rule (r : TickRes) (hok : r.res = .ok) :
    ((endOfTick r).res = .stopIteration ↔
      (r.tl.tracks = [] ∧ r.tl.actions = [] ∧ r.tl.stopWhenDone = true)) ∧
    ((endOfTick r).res ≠ .stopIteration → (endOfTick r).tl.now = r.tl.now + 1) := by
  rcases endOfTick_cases r with ⟨-, hc, e⟩ | ⟨-, hc, e⟩ | ⟨hr, -⟩
  · rw [e]; exact ⟨⟨fun _ => hc, fun _ => rfl⟩, fun h => absurd rfl h⟩
  · rw [e]; exact ⟨⟨fun h => (nomatch hok.symm.trans h), fun h => absurd h hc⟩, fun _ => rfl⟩
  · exact absurd hok hr

/-- The setting is read at the END of the tick (a callback may have changed it during the tick), hence the
    hypothesis on the state the tick leaves. -/
theorem never_stops_when_off (W : World) (tl : TL) (hoff : (tickTL W tl).tl.stopWhenDone = false) :
    (tickTL W tl).res ≠ .stopIteration := by
  obtain ⟨r, -, -, -, ⟨hc, -, e⟩ | ⟨e, -⟩ | ⟨hr, e, -⟩⟩ := tickTL_cases W tl
  · rw [e, hc.2.2] at hoff; cases hoff
  · rw [e]; exact nofun
  · rcases hr with hr | hr <;> rw [e, hr] <;> exact nofun

/-- **Track limit**: a `schedule` call for a new track at the limit raises, and changes nothing. -/
theorem schedule_refused_unchanged (tl : TL) (sid : Nat) (qz dl count : Option Nat) (rwd : Bool)
    (hmax : tl.maxTracks ≠ 0) (hfull : tl.maxTracks ≤ tl.tracks.length) :
    (applyOp tl (.schedule sid qz dl count rwd none true)).res = .limit ∧
    (applyOp tl (.schedule sid qz dl count rwd none true)).tl = tl ∧
    (applyOp tl (.schedule sid qz dl count rwd none true)).calls = [] := by
  simp [applyOp, hmax, hfull]

/-- **The number of tracks never exceeds `max_tracks`**: no API call other than changing the limit
    itself can take the track count past a non-zero limit (`len_le_max` below: nor can a whole history). -/
theorem len_le_max_op (tl : TL) (op : Op) (hmax : tl.maxTracks ≠ 0) (hlen : tl.tracks.length ≤ tl.maxTracks)
    (hop : ∀ n, op ≠ .setMax n) :
    (applyOp tl op).tl.tracks.length ≤ (applyOp tl op).tl.maxTracks ∧ (applyOp tl op).tl.maxTracks = tl.maxTracks := by
  have h := applyOp_len hmax tl op ⟨rfl, hlen⟩ (by cases op <;> first | rfl | exact absurd rfl (hop _))
  exact ⟨h.1 ▸ h.2, h.1⟩

/-- **Scheduling under an existing name with replace updates that track instead of adding one.** -/
theorem named_replace_no_growth (tl : TL) (sid : Nat) (qz dl count : Option Nat) (rwd : Bool) (n : Nat) (t0 t : Track)
    (hname : tl.tracks.find? (fun t => t.name == some n) = some t0) (hfind : tl.find t0.id = some t) :
    (applyOp tl (.schedule sid qz dl count rwd (some n) true)).tl.tracks.length = tl.tracks.length ∧
    (applyOp tl (.schedule sid qz dl count rwd (some n) true)).res = .ok := by
  simp only [applyOp, hname, hfind, if_true]
  split <;> simp [TL.updateTrack, TL.setTrack, length_setFirst]

/-- **An unscheduled or cleared track emits no further events**: ticking an id that is no longer in
    the timeline does nothing at all. -/
theorem removed_emits_nothing (W : World) (tl : TL) (tid : Nat) (h : tl.find tid = none) :
    (tickTrack W tl tid).calls = [] ∧ (tickTrack W tl tid).tl = tl ∧ (tickTrack W tl tid).out = .ok := by
  simp [tickTrack, h]

theorem find_eraseFirst_self_of_unique (tid : Nat) (ts : List Track) (h : (ts.map Track.id).Nodup) :
    findTrack tid (eraseFirst tid ts) = none := by
  cases hf : findTrack tid ts with
  | none => rw [eraseFirst_none hf]; exact hf
  | some t =>
    obtain ⟨a, b, rfl, ha, ht⟩ := findTrack_split hf
    rw [List.map_append, List.map_cons, ht] at h
    rw [eraseFirst_at ha ht, findTrack_eq_none, List.forall_mem_append]
    exact ⟨ha, fun v hv heq => (List.nodup_cons.mp (List.nodup_append.mp h).2.1).1 (heq ▸ List.mem_map_of_mem hv)⟩

/-- After `unschedule` (track ids being unique) the track is gone, so by `removed_emits_nothing` it is
    never ticked again; after `clear` no track is left. -/
theorem unscheduled_is_gone (tl : TL) (tid : Nat) (hu : (tl.tracks.map Track.id).Nodup) :
    (applyOp tl (.unschedule tid)).tl.find tid = none := by
  rw [applyOp]
  cases hf : tl.find tid with
  | none => exact hf
  | some t => exact find_eraseFirst_self_of_unique tid tl.tracks hu

theorem clear_removes_all (tl : TL) : (applyOp tl .clear).tl.tracks = [] := by simp [applyOp]

/-- **A muted track emits no onsets** (its events are consumed silently). -/
theorem muted_emits_nothing (tl : TL) (t : Track) (d : Nat) (a : Bool) (k : EvKind) (h : t.muted = true) :
    (performEvent tl t d a k).calls = [] := by
  simp [performEvent, h]

/-- **The number of tracks never exceeds `max_tracks`, over whole histories**: starting within a non-zero
    limit `m`, after ANY history of API calls and ticks that does not change the limit itself (neither
    directly nor from a callback) — including callbacks that schedule tracks, faults, removals — the number
    of tracks is ≤ `m`. -/
theorem len_le_max (W : World) (hW : NoSetMaxW W) (m : Nat) (hm : m ≠ 0) (hist : List Step) (tl : TL)
    (h0 : LenInv m tl) (hhist : ∀ s ∈ hist, ∀ o, s = .op o → o.isSetMax = false) :
    (run W tl hist).1.tracks.length ≤ m ∧ (run W tl hist).1.maxTracks = m := by
  suffices h : LenInv m (run W tl hist).1 from ⟨h.2, h.1⟩
  induction hist generalizing tl with
  | nil => exact h0
  | cons s ss ih =>
    rw [List.forall_mem_cons] at hhist
    refine ih (step W tl s).tl ?_ hhist.2
    cases s with
    | op o => exact applyOp_len hm tl o h0 (hhist.1 o rfl)
    | tick => exact tickTL_len hm W hW tl h0

end IsobarV.C06
