/-
C10 — Euclidean rhythms: what "k onsets spread maximally evenly over n steps" means, as a decidable predicate on
the output of the modelled `_euclidean(length, mod)` (`IsobarV.Pat.euclid`), and the proof that the model returns
such a rhythm for every `k ≤ n`.

The idea: read a rhythm as a word of blocks, a block being an onset followed by `m` rests.  The cyclic gaps of a word
are its block lengths `m + 1`, so a word over two adjacent block sizes `m`, `m + 1` is maximally even (`maxEven_word`).
Bjorklund's loop always holds two runs, `x` copies of a word `a` and `y` copies of a word `b`; a round makes them
`min x y` copies of `a ++ b` and the `|x - y|` copies left over (`splitRemainder_interleave_replicate`), so `x + y`
falls and the fuel suffices.  While the remainder consists of single rests a round adds a rest to every block
(`euclidLoop_rests`); once there are fewer rests than blocks the two words are the blocks `m + 1` and `m`, and both stay
words over these two blocks to the end (`euclidLoop_words`).  That the result has `n` steps and `k` onsets needs none of
this: the loop only rearranges (`euclidLoop_flatten_perm`).
-/
import IsobarV.Pat.Cls.Seq2

namespace IsobarV.C10
open IsobarV.Pat

/-- Positions of the onsets. -/
def onsets (seq : List Bool) : List Nat := (List.range seq.length).filter (fun i => seq.getD i false)

/-- Distances from each onset to the next one, cyclically (a single onset is at distance `n` from itself). -/
def cyclicGaps (n : Nat) (on : List Nat) : List Nat :=
  match on with
  | [] => []
  | a :: _ => List.zipWith (fun x y => (y + n - x - 1) % n + 1) on (on.tail ++ [a])

/-- `seq` has `n` steps, exactly `k` onsets, and all cyclic gaps between consecutive onsets are `⌊n/k⌋` or `⌈n/k⌉`
    (the onsets are spread maximally evenly). -/
def MaxEven (n k : Nat) (seq : List Bool) : Prop :=
  seq.length = n ∧ seq.count true = k ∧ ∀ g ∈ cyclicGaps n (onsets seq), g = n / k ∨ g = (n + k - 1) / k

instance (n k : Nat) (seq : List Bool) : Decidable (MaxEven n k seq) := by unfold MaxEven; infer_instance

/-- The modelled `_euclidean(n, k)` returns a maximally even rhythm. -/
def EuclidEven (n k : Nat) : Prop :=
  match euclid (n : Int) (k : Int) with
  | some seq => MaxEven n k seq
  | Option.none => False

instance (n k : Nat) : Decidable (EuclidEven n k) := by unfold EuclidEven; split <;> infer_instance

theorem EuclidEven.spec {n k : Nat} (h : EuclidEven n k) : ∃ seq, euclid (n : Int) (k : Int) = some seq ∧ MaxEven n k seq := by
  unfold EuclidEven at h
  split at h
  · rename_i seq hs; exact ⟨seq, hs, h⟩
  · exact absurd h id

example : euclid 8 3 = some [true, false, false, true, false, false, true, false] := by decide
example : euclid 8 5 = some [true, false, true, true, false, true, true, false] := by decide
example : cyclicGaps 8 (onsets [true, false, true, true, false, true, true, false]) = [2, 1, 2, 1, 2] := by decide
example : EuclidEven 8 5 := by decide

theorem interleave_eq (a b : List (List Bool)) :
    interleave a b = List.zipWith (· ++ ·) a b ++ (b.drop a.length ++ a.drop b.length) := by
  unfold interleave
  split
  · rw [a.drop_eq_nil_of_le (by omega), List.append_nil]
  · split
    · rw [b.drop_eq_nil_of_le (by omega), List.nil_append]
    · rw [a.drop_eq_nil_of_le (by omega), b.drop_eq_nil_of_le (by omega), List.append_nil, List.append_nil]

theorem interleave_flatten_perm (a b : List (List Bool)) : (interleave a b).flatten.Perm (a ++ b).flatten := by
  rw [interleave_eq]
  induction a generalizing b with
  | nil => simp
  | cons x a ih =>
    cases b with
    | nil => simp
    | cons y b =>
      rw [List.perm_iff_count]
      intro c
      have := (ih b).count_eq c
      simp only [List.zipWith_cons_cons, List.length_cons, List.drop_succ_cons, List.cons_append, List.flatten_cons,
        List.flatten_append, List.count_append] at this ⊢
      omega

theorem splitRemainder_perm (l : List (List Bool)) : ((splitRemainder l).1 ++ (splitRemainder l).2).Perm l := by
  cases l with
  | nil => simp [splitRemainder]
  | cons x l => exact List.filter_append_perm _ _

theorem euclidLoop_flatten_perm : ∀ (fuel : Nat) (s r out : List (List Bool)),
    euclidLoop fuel s r = some out → out.flatten.Perm (s ++ r).flatten
  | 0, _, _, _, h => by simp [euclidLoop] at h
  | fuel + 1, s, r, out, h => by
    rw [euclidLoop] at h
    split at h
    · cases h; exact List.Perm.refl _
    · exact (euclidLoop_flatten_perm fuel _ _ out h).trans
        (((splitRemainder_perm _).flatten).trans (interleave_flatten_perm s r))

theorem splitRemainder_replicate_append (u : List Bool) {p : Nat} (hp : 0 < p) (rest : List (List Bool))
    (h : ∀ v ∈ rest, v ≠ u) : splitRemainder (List.replicate p u ++ rest) = (List.replicate p u, rest) := by
  obtain ⟨p, rfl⟩ : ∃ q, p = q + 1 := ⟨p - 1, by omega⟩
  have h1 : rest.filter (fun y => y == u) = [] := by simpa using h
  have h2 : rest.filter (fun y => !(y == u)) = rest := by simpa using h
  simp [splitRemainder, List.replicate_succ, List.filter_append, h1, h2]

theorem splitRemainder_interleave_replicate {a b : List Bool} (ha : a ≠ []) (hb : b ≠ []) {x y : Nat}
    (hx : 0 < x) (hy : 0 < y) :
    splitRemainder (interleave (List.replicate x a) (List.replicate y b)) =
      if x ≤ y then (List.replicate x (a ++ b), List.replicate (y - x) b)
      else (List.replicate y (a ++ b), List.replicate (x - y) a) := by
  simp only [interleave_eq, List.length_replicate, List.zipWith_replicate, List.drop_replicate]
  split
  · rw [Nat.min_eq_left ‹_›, show x - y = 0 by omega, List.replicate_zero, List.append_nil]
    exact splitRemainder_replicate_append _ hx _ (by simp [ha])
  · rw [Nat.min_eq_right (by omega), show y - x = 0 by omega, List.replicate_zero, List.nil_append]
    exact splitRemainder_replicate_append _ hy _ (by simp [hb])

/-- An onset followed by `m` rests. -/
def block (m : Nat) : List Bool := true :: List.replicate m false

/-- The rhythm made of the blocks `ms`. -/
def word (ms : List Nat) : List Bool := (ms.map block).flatten

theorem word_singleton (m : Nat) : word [m] = block m := by simp [word]

theorem word_append (as bs : List Nat) : word (as ++ bs) = word as ++ word bs := by simp [word]

theorem word_flatten (L : List (List Nat)) : word L.flatten = (L.map word).flatten := by
  simp only [word, List.map_flatten, List.flatten_flatten, List.map_map]
  rfl

theorem word_ne_nil {ms : List Nat} (h : ms ≠ []) : word ms ≠ [] := by
  cases ms with
  | nil => exact absurd rfl h
  | cons m ms => simp [word, block]

theorem block_append_rests (m y : Nat) : block m ++ List.replicate y false = block (m + y) := by
  simp [block, List.replicate_append_replicate]

theorem euclidLoop_words (P : Nat → Prop) : ∀ (fuel x y : Nat) (as bs : List Nat), 0 < x → x + y < fuel →
    as ≠ [] → bs ≠ [] → (∀ e ∈ as, P e) → (∀ e ∈ bs, P e) →
    ∃ r ms, euclidLoop fuel (List.replicate x (word as)) (List.replicate y (word bs)) = some r ∧
      r.flatten = word ms ∧ ∀ e ∈ ms, P e
  | 0, _, _, _, _, _, h, _, _, _, _ => by omega
  | fuel + 1, x, y, as, bs, hx, hf, ha, hb, pa, pb => by
    have pab := List.forall_mem_append.2 ⟨pa, pb⟩
    have hab := List.append_ne_nil_of_left_ne_nil ha bs
    rw [euclidLoop, List.length_replicate]
    split
    · refine ⟨_, (List.replicate x as ++ List.replicate y bs).flatten, rfl, ?_, ?_⟩
      · rw [word_flatten, List.map_append, List.map_replicate, List.map_replicate]
      · simp only [List.mem_flatten, List.mem_append, List.mem_replicate]
        rintro e ⟨l, ⟨_, rfl⟩ | ⟨_, rfl⟩, he⟩
        · exact pa e he
        · exact pb e he
    · rw [splitRemainder_interleave_replicate (word_ne_nil ha) (word_ne_nil hb) hx (by omega), ← word_append]
      split
      · exact euclidLoop_words P fuel x (y - x) (as ++ bs) bs hx (by omega) hab hb pab pb
      · exact euclidLoop_words P fuel y (x - y) (as ++ bs) as (by omega) (by omega) hab ha pab pa

theorem euclidLoop_rests : ∀ (fuel k y m : Nat), 0 < k → k + y < fuel →
    ∃ m' r ms, euclidLoop fuel (List.replicate k (block m)) (List.replicate y [false]) = some r ∧
      r.flatten = word ms ∧ ∀ e ∈ ms, e = m' ∨ e = m' + 1
  | 0, _, _, _, _, h => by omega
  | fuel + 1, k, y, m, hk, hf => by
    rw [euclidLoop, List.length_replicate]
    split
    · obtain ⟨k, rfl⟩ : ∃ q, k = q + 1 := ⟨k - 1, by omega⟩
      refine ⟨m, _, List.replicate k m ++ [m + y], rfl, ?_, ?_⟩
      · simp [List.replicate_succ', ← block_append_rests m y, word]
      · simp only [List.mem_append, List.mem_replicate, List.mem_singleton]
        omega
    · rw [splitRemainder_interleave_replicate (by simp [block]) (by simp) hk (by omega),
        ← List.replicate_one, block_append_rests]
      split
      · exact euclidLoop_rests fuel k (y - k) (m + 1) hk (by omega)
      · rw [← word_singleton, ← word_singleton]
        exact ⟨m, euclidLoop_words _ fuel y (k - y) [m + 1] [m] (by omega) (by omega) (by simp) (by simp)
          (by simp) (by simp)⟩

theorem onsets_cons (b : Bool) (l : List Bool) :
    onsets (b :: l) = (if b then [0] else []) ++ (onsets l).map (· + 1) := by
  cases b <;> simp [onsets, List.range_succ_eq_map, List.filter_map, Function.comp_def]

/-- Where the blocks of `word ms` start when the first one starts at `c`. -/
def starts (c : Nat) : List Nat → List Nat
  | [] => []
  | m :: ms => c :: starts (c + m + 1) ms

theorem onsets_rests_append (j : Nat) (l : List Bool) :
    onsets (List.replicate j false ++ l) = (onsets l).map (· + j) := by
  induction j with
  | zero => simp
  | succ j ih => simp [List.replicate_succ, onsets_cons, ih, Nat.add_assoc]

theorem map_onsets_word (ms : List Nat) (c : Nat) : (onsets (word ms)).map (· + c) = starts c ms := by
  induction ms generalizing c with
  | nil => simp [word, onsets, starts]
  | cons m ms ih =>
    rw [starts, ← ih]
    simp [word, block, onsets_cons, onsets_rests_append]
    omega

theorem onsets_word (ms : List Nat) : onsets (word ms) = starts 0 ms := by
  simpa using map_onsets_word ms 0

theorem length_word_cons (m : Nat) (ms : List Nat) : (word (m :: ms)).length = m + 1 + (word ms).length := by
  simp [word, block]
  omega

theorem lt_length_word {a : Nat} : ∀ {ms : List Nat}, a ∈ ms → a < (word ms).length
  | m :: ms, h => by
    rw [length_word_cons]
    rcases List.mem_cons.1 h with rfl | h
    · omega
    · have := lt_length_word h; omega

theorem gap_eq {n x y d : Nat} (h : y = x + d + 1 ∨ y + n = x + d + 1) (hd : d < n) :
    (y + n - x - 1) % n = d := by
  rw [Nat.sub_sub]
  rcases h with h | h
  · rw [Nat.sub_eq_of_eq_add (c := d + n) (by omega), Nat.add_mod_right, Nat.mod_eq_of_lt hd]
  · rw [Nat.sub_eq_of_eq_add (c := d) (by omega), Nat.mod_eq_of_lt hd]

/-- The gaps of consecutive block starts, the last one back to `e`, which is the first start modulo `n`. -/
theorem zipWith_starts (n e : Nat) : ∀ (ms : List Nat) (c m : Nat), (∀ a ∈ m :: ms, a < n) →
    e + n = c + (word (m :: ms)).length →
    List.zipWith (fun x y => (y + n - x - 1) % n + 1) (c :: starts (c + m + 1) ms) (starts (c + m + 1) ms ++ [e]) =
      (m :: ms).map (· + 1)
  | [], c, m, hlt, he => by
    rw [length_word_cons] at he
    simp only [starts, List.nil_append, List.zipWith_cons_cons, List.zipWith_nil_right, List.map_cons, List.map_nil]
    rw [gap_eq (.inr he) (hlt m List.mem_cons_self)]
  | m' :: ms, c, m, hlt, he => by
    rw [length_word_cons] at he
    rw [starts, List.cons_append, List.zipWith_cons_cons, gap_eq (.inl rfl) (hlt m List.mem_cons_self),
      zipWith_starts n e ms (c + m + 1) m' (fun a ha => hlt a (List.mem_cons_of_mem _ ha)) (by omega)]
    rfl

theorem cyclicGaps_onsets_word : ∀ ms : List Nat, cyclicGaps (word ms).length (onsets (word ms)) = ms.map (· + 1)
  | [] => by simp [word, onsets, cyclicGaps]
  | m :: ms => by
    rw [onsets_word, starts, cyclicGaps, List.tail_cons]
    exact zipWith_starts _ 0 ms 0 m (fun a => lt_length_word) rfl

theorem count_true_word (ms : List Nat) : (word ms).count true = ms.length := by
  induction ms with
  | nil => rfl
  | cons m ms ih => simpa [word, block, List.count_replicate] using ih

theorem length_word_eq {m : Nat} : ∀ {ms : List Nat}, (∀ e ∈ ms, e = m ∨ e = m + 1) →
    (word ms).length = ms.length * (m + 1) + ms.count (m + 1)
  | [], _ => by simp [word]
  | e :: ms, h => by
    have ih := length_word_eq (m := m) (ms := ms) (fun a ha => h a (List.mem_cons_of_mem _ ha))
    rw [length_word_cons, ih, List.length_cons, Nat.succ_mul, List.count_cons]
    rcases h e (by simp) with rfl | rfl <;> simp <;> omega

theorem maxEven_word {m : Nat} {ms : List Nat} (hne : ms ≠ []) (h : ∀ e ∈ ms, e = m ∨ e = m + 1) :
    MaxEven (word ms).length ms.length (word ms) := by
  refine ⟨rfl, count_true_word ms, ?_⟩
  rw [cyclicGaps_onsets_word, length_word_eq h]
  intro g hg
  obtain ⟨e, he, rfl⟩ := List.mem_map.1 hg
  have hk : 0 < ms.length := List.length_pos_iff.2 hne
  have hp : ms.count (m + 1) ≤ ms.length := List.count_le_length
  rw [Nat.mul_add_div hk, show ms.length * (m + 1) + ms.count (m + 1) + ms.length - 1 =
    ms.length * (m + 1) + (ms.count (m + 1) + ms.length - 1) by omega, Nat.mul_add_div hk]
  rcases h e he with rfl | rfl
  · have : ms.count (e + 1) ≠ ms.length := fun hc => by have := List.count_eq_length.1 hc e he; omega
    exact Or.inl (by rw [Nat.div_eq_of_lt (by omega)])
  · have : 0 < ms.count (m + 1) := List.count_pos_iff.2 he
    by_cases hc : ms.count (m + 1) = ms.length
    · exact Or.inl (by rw [hc, Nat.div_self hk])
    · exact Or.inr (by rw [Nat.div_eq_of_lt_le (k := 1) (by omega) (by omega)])

theorem euclid_of_loop {n k : Nat} (hk : k ≤ n) {s t r : List (List Bool)}
    (hs : splitRemainder (List.replicate k [true] ++ List.replicate (n - k) [false]) = (s, t))
    (hr : euclidLoop (n + 2) s t = some r) (hne : r ≠ []) : euclid (n : Int) (k : Int) = some r.flatten := by
  simp only [euclid, Int.toNat_natCast, ← Int.ofNat_sub hk, hs, hr]

theorem euclid_zero {n : Nat} (hn : 1 ≤ n) : euclid (n : Int) ((0 : Nat) : Int) = some (List.replicate n false) := by
  have := euclid_of_loop (Nat.zero_le n) (s := List.replicate n [false]) (t := []) (r := List.replicate n [false])
    (by simpa using splitRemainder_replicate_append [false] hn [] (by simp)) (by simp [euclidLoop]) (by simp; omega)
  simpa using this

theorem euclid_maxEven {n k : Nat} (hn : 1 ≤ n) (hk : k ≤ n) :
    ∃ seq, euclid (n : Int) (k : Int) = some seq ∧ MaxEven n k seq := by
  rcases Nat.eq_zero_or_pos k with rfl | hk0
  · have hon := onsets_rests_append n []
    rw [List.append_nil, show onsets [] = [] from rfl, List.map_nil] at hon
    exact ⟨_, euclid_zero hn, List.length_replicate, by simp [List.count_replicate], by simp [hon, cyclicGaps]⟩
  · obtain ⟨m, r, ms, hr, hw, hm⟩ := euclidLoop_rests (n + 2) k (n - k) 0 hk0 (by omega)
    have hperm := euclidLoop_flatten_perm _ _ _ _ hr
    have hlen : (word ms).length = n := by
      rw [← hw, hperm.length_eq]; simp [block]; omega
    have hcnt : ms.length = k := by
      rw [← count_true_word, ← hw, hperm.count_eq]; simp [block, List.count_replicate]
    have hne : ms ≠ [] := by rintro rfl; simp at hcnt; omega
    have := maxEven_word hne hm
    rw [hlen, hcnt] at this
    refine ⟨_, ?_, this⟩
    rw [← hw]
    exact euclid_of_loop hk (splitRemainder_replicate_append [true] hk0 _ (by simp)) hr
      (fun h => word_ne_nil hne (by rw [← hw, h]; rfl))

theorem euclidEven_of_le {n k : Nat} (hn : 1 ≤ n) (hk : k ≤ n) : EuclidEven n k := by
  obtain ⟨seq, hs, hm⟩ := euclid_maxEven hn hk
  rw [EuclidEven, hs]
  exact hm

/-- **Euclidean rhythms, `1 ≤ n ≤ 64`, `k ≤ n`: the modelled `_euclidean(n, k)` has length `n`, exactly `k` onsets, and
    all cyclic gaps between consecutive onsets are `⌊n/k⌋` or `⌈n/k⌉`.** -/
theorem euclid_even : ∀ (n k : Nat), 1 ≤ n → n ≤ 64 → k ≤ n → EuclidEven n k :=
  fun _ _ h1 _ hk => euclidEven_of_le h1 hk

/-- In words: there is a rhythm `seq` returned by the model with the three properties. -/
theorem euclid_even_spec (n k : Nat) (h1 : 1 ≤ n) (h2 : n ≤ 64) (hk : k ≤ n) :
    ∃ seq, euclid (n : Int) (k : Int) = some seq ∧ seq.length = n ∧ seq.count true = k ∧
      ∀ g ∈ cyclicGaps n (onsets seq), g = n / k ∨ g = (n + k - 1) / k :=
  (euclid_even n k h1 h2 hk).spec

end IsobarV.C10
