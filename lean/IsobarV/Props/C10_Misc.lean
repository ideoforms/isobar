/-
C10 — reference definitions of the misc group.

* `PLSystem`: the string is the `depth`-fold rewriting of the start symbol `N` (characterised top-down as well:
  `lsysExpand_outer`), the output is its turtle interpretation `turtle` (a list function), then StopIteration for
  ever — for EVERY rule with `loop=False` (`lsystem_reference`), and with `loop=True` for rest-free rules
  (`lsystem_reference_loop_restfree`).  With `loop=True` a rest token restarts the system (`lsystem_rest_restarts`,
  an observation about the code, not a documented behaviour); exhaustion never loops.
* `PDict`: the rows of the value streams, as long as all of them yield (`dict_reference`); the stream ends with the
  first value that ends (`dict_ends_with_first`, `dict_reference_finite`); `PDict({})` yields `{}` for ever; a list of
  dicts and the dict of the one-shot sequences of its columns are the same object and yield exactly the rows
  (`pdict_forms_agree_struct`, `pdict_forms_agree`).
* `PDictKey`: the lookup of the key stream in the dict stream, step by step (`dictKey_reference`, `dictFind_some`,
  `dictFind_none`, `dictKey_plain_reference`).
-/
import IsobarV.Props.C10_Seq1
import IsobarV.Pat.Cls.MiscLemmas

namespace IsobarV.C10Misc
open IsobarV.Pat IsobarV.C10Seq1

theorem lsysRewrite_flatMap (rule : List Char) (f : Char → List Char) (s : List Char) :
    lsysRewrite rule (s.flatMap f) = s.flatMap (fun c => lsysRewrite rule (f c)) := by
  simp [lsysRewrite, List.flatMap_assoc]

/-- **Top-down characterisation of the expansion**: the string of depth `d + 1` is the rule in which every `N` stands
    for the whole string of depth `d` (the code — and the model — rewrite bottom-up: every `N` of the string of depth
    `d` is replaced by the rule). -/
theorem lsysExpand_outer (rule : List Char) (d : Nat) :
    lsysExpand rule (d + 1) = rule.flatMap (fun c => if c = 'N' then lsysExpand rule d else [c]) := by
  induction d with
  | zero =>
    have h : ∀ c : Char, (if c = 'N' then ['N'] else [c]) = [c] := fun c => by split <;> simp [*]
    simp [lsysExpand, lsysRewrite, h]
  | succ d ih =>
    conv => lhs; rw [lsysExpand, ih, lsysRewrite_flatMap]
    refine congrArg (rule.flatMap ·) (funext fun c => ?_)
    split
    · rfl
    · simp [lsysRewrite, *]

theorem lsysExpand_mem (rule : List Char) (d : Nat) (c : Char) (h : c ∈ lsysExpand rule d) : c = 'N' ∨ c ∈ rule := by
  induction d with
  | zero => left; simpa [lsysExpand] using h
  | succ d ih =>
    simp only [lsysExpand, lsysRewrite, List.mem_flatMap] at h
    obtain ⟨x, hx, hc⟩ := h
    split at hc
    · exact Or.inr hc
    · simp only [List.mem_singleton] at hc
      subst hc
      exact ih hx

/-- The documented interpretation of an L-system string, as a list function: `N` yields the current state, `_` a
    rest, `+` / `-` move the state, `[` / `]` save and restore it; any other character is ignored.  (`]` without a
    saved state raises IndexError and goes on; `?` is outside the model.) -/
def turtle : List Char → Int → List Int → List Out
  | [], _, _ => []
  | c :: ts, s, stk =>
    if c = 'N' then .val (Val.int s) :: turtle ts s stk
    else if c = '_' then .val Val.none :: turtle ts s stk
    else if c = '-' then turtle ts (s - 1) stk
    else if c = '+' then turtle ts (s + 1) stk
    else if c = '?' then .err .unmodelled :: turtle ts s stk
    else if c = '[' then turtle ts s (s :: stk)
    else if c = ']' then
      match stk with
      | [] => .err .indexError :: turtle ts s []
      | x :: rest => turtle ts x rest
    else turtle ts s stk

/-- The first `n` outcomes of a pattern whose outcomes are `l`, then StopIteration for ever (`pad`, for outcomes that
    need not be values: the turtle's include exceptions). -/
def padO (n : Nat) (l : List Out) : List Out := (l ++ List.replicate n Out.stop).take n

theorem padO_cons (n : Nat) (x : Out) (l : List Out) : padO (n + 1) (x :: l) = x :: padO n l := by
  simp [padO, List.replicate_succ', ← List.append_assoc, List.take_append_of_le_length]

theorem padO_nil (n : Nat) : padO n [] = List.replicate n .stop := by simp [padO]

/-- One `LSystem.__next__` against the turtle, which reads a stack entry through `lsysInt` as `]` does: either the
    rest of the string yields nothing (StopIteration, `pos` at the end), or the scan stops after `k ≥ 1` tokens on the
    turtle's next outcome (never StopIteration; a rest only if the string has a rest token). -/
def ScanRel (ts : List Char) (pos : Nat) (s : Int) (stk : List Val) : Prop :=
  (turtle ts s (stk.map lsysInt) = [] ∧ (lsysScan ts pos s stk).out = .stop ∧
    (lsysScan ts pos s stk).pos = pos + ts.length) ∨
  ∃ k, 1 ≤ k ∧ k ≤ ts.length ∧ (lsysScan ts pos s stk).pos = pos + k ∧ (lsysScan ts pos s stk).out ≠ .stop ∧
    ((lsysScan ts pos s stk).out = .val Val.none → '_' ∈ ts) ∧
    turtle ts s (stk.map lsysInt) = (lsysScan ts pos s stk).out ::
      turtle (ts.drop k) (lsysScan ts pos s stk).state ((lsysScan ts pos s stk).stack.map lsysInt)

theorem scan_turtle_cons (c : Char) (ts : List Char) (pos : Nat) (s : Int) (stk : List Val) :
    (∃ o, lsysScan (c :: ts) pos s stk = { out := o, pos := pos + 1, state := s, stack := stk } ∧
      turtle (c :: ts) s (stk.map lsysInt) = o :: turtle ts s (stk.map lsysInt) ∧ o ≠ .stop ∧
      (o = .val Val.none → c = '_')) ∨
    ∃ s' stk', lsysScan (c :: ts) pos s stk = lsysScan ts (pos + 1) s' stk' ∧
      turtle (c :: ts) s (stk.map lsysInt) = turtle ts s' (stk'.map lsysInt) := by
  by_cases hN : c = 'N'
  · subst hN; exact .inl ⟨_, rfl, rfl, nofun, nofun⟩
  by_cases hR : c = '_'
  · subst hR; exact .inl ⟨_, rfl, rfl, nofun, fun _ => rfl⟩
  by_cases hm : c = '-'
  · subst hm; exact .inr ⟨_, stk, rfl, rfl⟩
  by_cases hp : c = '+'
  · subst hp; exact .inr ⟨_, stk, rfl, rfl⟩
  by_cases hq : c = '?'
  · subst hq; exact .inl ⟨_, rfl, rfl, nofun, nofun⟩
  by_cases ho : c = '['
  · subst ho; exact .inr ⟨_, Val.int s :: stk, rfl, rfl⟩
  by_cases hc : c = ']'
  · subst hc
    cases stk with
    | nil => exact .inl ⟨_, rfl, rfl, nofun, nofun⟩
    | cons x rest => exact .inr ⟨_, rest, rfl, rfl⟩
  · simp only [lsysScan, turtle]
    rw [if_neg hN, if_neg hN, if_neg hR, if_neg hR, if_neg hm, if_neg hm, if_neg hp, if_neg hp, if_neg hq, if_neg hq,
      if_neg ho, if_neg ho, if_neg hc, if_neg hc]
    exact .inr ⟨_, stk, rfl, rfl⟩

/-- **`LSystem.__next__` follows the turtle**, from any position, state and stack. -/
theorem lsystem_scan_turtle (ts : List Char) : ∀ (pos : Nat) (s : Int) (stk : List Val), ScanRel ts pos s stk := by
  induction ts with
  | nil => intro pos s stk; exact .inl ⟨rfl, rfl, rfl⟩
  | cons c ts ih =>
    intro pos s stk
    unfold ScanRel
    rcases scan_turtle_cons c ts pos s stk with ⟨o, h1, h2, h3, h4⟩ | ⟨s', stk', h1, h2⟩
    · rw [h1, h2]
      exact .inr ⟨1, .refl, Nat.succ_le_succ (Nat.zero_le _), rfl, h3, fun h => h4 h ▸ .head _, rfl⟩
    · rw [h1, h2]
      rcases ih (pos + 1) s' stk' with ⟨a, b, e⟩ | ⟨k, _, k2, e1, e2, e3, e4⟩
      · exact .inl ⟨a, b, e.trans (Nat.add_right_comm ..)⟩
      · exact .inr ⟨k + 1, Nat.le_add_left 1 k, Nat.succ_le_succ k2, e1.trans (Nat.add_right_comm ..), e2,
          fun h => .tail _ (e3 h), e4⟩

theorem lsystem_stopped (rec : Rec) (kids : List Pat) : ∀ (n : Nat) (st : St), (lsysTokens st).length ≤ st.n2.toNat →
    clsOuts stepLsystem rec n kids st = List.replicate n .stop := fun n st h =>
  clsOuts_const (fun _ st => (lsysTokens st).length ≤ st.n2.toNat) (fun kids _ h => stepLsystem_ended rec kids h) n kids st h

/-- From any state the pattern follows the turtle on the rest of the string, provided `loop` never fires: the flag
    is off or the string has no rest token. -/
theorem lsystem_run (rec : Rec) (kids : List Pat) : ∀ (n : Nat) (st : St), (st.n1 = 0 ∨ '_' ∉ lsysTokens st) →
    clsOuts stepLsystem rec n kids st =
      padO n (turtle ((lsysTokens st).drop st.n2.toNat) st.n3 (st.buf.map lsysInt)) := by
  intro n
  induction n with
  | zero => intros; rfl
  | succ n ih =>
    intro st hloop
    rcases lsystem_scan_turtle ((lsysTokens st).drop st.n2.toNat) st.n2.toNat st.n3 st.buf with
      ⟨a, b, c⟩ | ⟨k, _, _, e1, _, e3, e4⟩
    · have hcnd : ¬ ((lsysFirst st).out = .val Val.none ∧ st.n1 ≠ 0) := fun h => nomatch b.symm.trans h.1
      simp only [clsOuts, stepLsystem, if_neg hcnd]
      rw [lsysFirst, a, padO_nil, b]
      refine congrArg _ (lsystem_stopped rec kids n _ ?_)
      rw [lsysTokens_lsysSt, lsysSt_n2, c, List.length_drop]
      omega
    · have hcnd : ¬ ((lsysFirst st).out = .val Val.none ∧ st.n1 ≠ 0) := fun h =>
        hloop.elim h.2 fun hm => hm (List.mem_of_mem_drop (e3 h.1))
      simp only [clsOuts, stepLsystem, if_neg hcnd]
      rw [lsysFirst, e4, padO_cons, ih (lsysSt st _) hloop, lsysSt_n2, e1, List.drop_drop]
      rfl

/-- **PLSystem(rule, depth, loop=False)** yields the turtle interpretation of the `depth`-fold expansion of `N`,
    then StopIteration for ever — for every rule (rests and unbalanced brackets included). -/
theorem lsystem_reference (rec : Rec) (kids : List Pat) (rule : String) (depth n : Nat) :
    clsOuts stepLsystem rec n kids { v0 := .str rule, n0 := (depth : Int), n1 := 0 } =
      padO n (turtle (lsysExpand rule.toList depth) 0 []) :=
  lsystem_run rec kids n _ (.inl rfl)

/-- **PLSystem(rule, depth, loop=True)** for a rule without rest tokens: the same sequence — the `loop` flag does
    not loop on exhaustion. -/
theorem lsystem_reference_loop_restfree (rec : Rec) (kids : List Pat) (rule : String) (depth n : Nat) (loop : Int)
    (h : '_' ∉ rule.toList) :
    clsOuts stepLsystem rec n kids { v0 := .str rule, n0 := (depth : Int), n1 := loop } =
      padO n (turtle (lsysExpand rule.toList depth) 0 []) :=
  lsystem_run rec kids n _ (.inr fun hm => (lsysExpand_mem _ _ _ hm).elim (by decide) h)

/-- Observation (`loop=True`): when the scan meets a rest token, the system is restarted and the step yields the
    FIRST outcome of the string (not a rest, unless the string starts with one). -/
theorem lsystem_rest_restarts (rec : Rec) (kids : List Pat) (st : St) (h1 : (lsysFirst st).out = .val Val.none)
    (h2 : st.n1 ≠ 0) :
    (stepLsystem rec kids st).out = (lsysScan (lsysTokens st) 0 0 []).out ∧
    (stepLsystem rec kids st).st = lsysSt st (lsysScan (lsysTokens st) 0 0 []) := by
  simp only [stepLsystem, if_pos (And.intro h1 h2), lsysAgain]
  exact ⟨trivial, trivial⟩

/-- Row `i` of the columns `cols` is the list of their `i`-th entries. -/
def rowsOf : Nat → List (List Atom) → List (List Atom)
  | 0, _ => []
  | n + 1, cols => cols.map (fun c => c.headD Atom.none) :: rowsOf n (cols.map List.tail)

/-- Two lists related element by element. -/
inductive All2 {α β : Type} (R : α → β → Prop) : List α → List β → Prop where
  | nil : All2 R [] []
  | cons {a : α} {b : β} {as : List α} {bs : List β} : R a b → All2 R as bs → All2 R (a :: as) (b :: bs)

/-- The first `n` outcomes of the value pattern `k` are the scalars `c`. -/
def ColPrefix (rec : Rec) (n : Nat) (k : Pat) (c : List Atom) : Prop :=
  recOuts rec n k = c.map (fun x => Out.val (.a x))

/-- Resolving patterns that are related to columns whose heads they yield next gives the row of the heads and
    leaves patterns related to the tails (`P`: a side condition on the columns). -/
theorem stepAll_heads {rec : Rec} {R R' : Pat → List Atom → Prop} {P : List Atom → Prop}
    (hR : ∀ {k c}, R k c → P c → (rec k).out = .val (.a (c.headD Atom.none)) ∧ R' (rec k).p c.tail)
    {kids : List Pat} {cols : List (List Atom)} (h : All2 R kids cols) (hP : ∀ c ∈ cols, P c) :
    (stepAll rec kids).fail = Option.none ∧ (stepAll rec kids).vals = cols.map (fun c => c.headD Atom.none) ∧
    All2 R' (stepAll rec kids).kids (cols.map List.tail) := by
  induction h with
  | nil => exact ⟨rfl, rfl, .nil⟩
  | cons hkc _ ih =>
    obtain ⟨i1, i2, i3⟩ := ih fun c hc => hP c (List.mem_cons_of_mem _ hc)
    obtain ⟨h1, h2⟩ := hR hkc (hP _ List.mem_cons_self)
    simp only [stepAll, h1, i1, i2, List.map_cons]
    exact ⟨trivial, trivial, .cons h2 i3⟩

/-- **PDict(dict of patterns)**: as long as every value pattern yields, the dicts are the rows of the value streams
    (value `j` of dict `i` = the `i`-th value of pattern `j`), for arbitrary value patterns. -/
theorem dict_reference (rec : Rec) (n : Nat) (kids : List Pat) (cols : List (List Atom)) (st : St)
    (h : All2 (ColPrefix rec n) kids cols) :
    clsOuts stepTuple rec n kids st = (rowsOf n cols).map (fun r => Out.val (.tup r)) := by
  induction n generalizing kids cols with
  | zero => rfl
  | succ n ih =>
    obtain ⟨i1, i2, i3⟩ := stepAll_heads (R' := ColPrefix rec n) (P := fun _ => True) (fun {k c} hk _ => by
      cases c with
      | nil => exact absurd hk (List.cons_ne_nil _ _)
      | cons x c' => exact List.cons.inj hk) h fun _ _ => trivial
    simp only [clsOuts, stepTuple, i1, i2, rowsOf, List.map_cons]
    rw [ih _ _ i3]

theorem stepAll_first_stop (rec : Rec) (pre : List Pat) (k : Pat) (post : List Pat)
    (hpre : ∀ x ∈ pre, ∃ a, (rec x).out = .val (.a a)) (hk : (rec k).out = .stop) :
    (stepAll rec (pre ++ k :: post)).fail = some .stop ∧
    (stepAll rec (pre ++ k :: post)).kids = pre.map (fun x => (rec x).p) ++ (rec k).p :: post := by
  induction pre with
  | nil => simp [stepAll, hk]
  | cons x xs ih =>
    obtain ⟨a, ha⟩ := hpre x (by simp)
    obtain ⟨i1, i2⟩ := ih (fun y hy => hpre y (by simp [hy]))
    simp only [List.cons_append, stepAll, ha, i1, i2, List.map_cons]
    exact ⟨trivial, trivial⟩

/-- **StopIteration of any value ends the stream**: the values before it (in key order) have been consumed, the
    ones after it have not. -/
theorem dict_ends_with_first (rec : Rec) (pre : List Pat) (k : Pat) (post : List Pat) (st : St)
    (hpre : ∀ x ∈ pre, ∃ a, (rec x).out = .val (.a a)) (hk : (rec k).out = .stop) :
    (stepTuple rec (pre ++ k :: post) st).out = .stop ∧
    (stepTuple rec (pre ++ k :: post) st).kids = pre.map (fun x => (rec x).p) ++ (rec k).p :: post := by
  obtain ⟨i1, i2⟩ := stepAll_first_stop rec pre k post hpre hk
  simp only [stepTuple, i1, i2]
  exact ⟨trivial, trivial⟩

/-- `PDict({})` (and `PDict([])`, `PDict([{}, {}])`) yields the empty dict for ever. -/
theorem dict_empty (rec : Rec) (n : Nat) (st : St) :
    clsOuts stepTuple rec n [] st = List.replicate n (.val (.tup [])) :=
  clsOuts_fixed rfl n

/-- The value pattern `k` yields exactly the scalars `col`, then StopIteration for ever. -/
def Yields (rec : Rec) (k : Pat) (col : List Atom) : Prop := ∀ n, recOuts rec n k = pad n (col.map Val.a)

theorem Yields.cons {rec : Rec} {k : Pat} {x : Atom} {c : List Atom} (h : Yields rec k (x :: c)) :
    (rec k).out = .val (.a x) ∧ Yields rec (rec k).p c :=
  have e := fun n => List.cons.inj ((h (n + 1)).trans (pad_cons n _ _))
  ⟨(e 0).1, fun n => (e n).2⟩

theorem Yields.nil {rec : Rec} {k : Pat} (h : Yields rec k []) : (rec k).out = .stop ∧ Yields rec (rec k).p [] :=
  have e := fun n => List.cons.inj ((h (n + 1)).trans (pad_nil (n + 1)))
  ⟨(e 0).1, fun n => (e n).2.trans (pad_nil n).symm⟩

theorem dict_first_ended (rec : Rec) {k : Pat} (ks : List Pat) (h : Yields rec k []) (st : St) (n : Nat) :
    clsOuts stepTuple rec n (k :: ks) st = List.replicate n .stop :=
  clsOuts_const (fun kids _ => ∃ k ks, kids = k :: ks ∧ Yields rec k [])
    (by
      rintro _ st ⟨k, ks, rfl, h⟩
      have e : stepTuple rec (k :: ks) st = ⟨.stop, (rec k).p :: ks, st⟩ := by simp only [stepTuple, stepAll, h.nil.1]
      rw [e]
      exact ⟨rfl, _, _, rfl, h.nil.2⟩)
    n _ st ⟨k, ks, rfl, h⟩

/-- **PDict of finite value streams of equal length `L`**: exactly the `L` rows, then StopIteration for ever. -/
theorem dict_reference_finite (rec : Rec) (L : Nat) : ∀ (kids : List Pat) (cols : List (List Atom)) (st : St) (n : Nat),
    cols ≠ [] → All2 (Yields rec) kids cols → (∀ c ∈ cols, c.length = L) →
    clsOuts stepTuple rec n kids st = pad n ((rowsOf L cols).map Val.tup) := by
  induction L with
  | zero =>
    intro kids cols st n hne h hlen
    cases h with
    | nil => exact absurd rfl hne
    | cons hkc _ =>
      rw [List.eq_nil_of_length_eq_zero (hlen _ List.mem_cons_self)] at hkc
      exact (dict_first_ended rec _ hkc st n).trans (pad_nil n).symm
  | succ L ih =>
    intro kids cols st n hne h hlen
    cases n with
    | zero => rfl
    | succ n =>
      obtain ⟨i1, i2, i3⟩ := stepAll_heads (R' := Yields rec) (fun {k c} hk (hc : c.length = L + 1) => by
        cases c with
        | nil => cases hc
        | cons x c' => exact hk.cons) h hlen
      simp only [clsOuts, stepTuple, i1, i2, rowsOf, List.map_cons, pad_cons]
      refine congrArg _ (ih _ _ st n (by rwa [Ne, List.map_eq_nil_iff]) i3 fun c hc => ?_)
      obtain ⟨c0, h0, rfl⟩ := List.mem_map.mp hc
      rw [List.length_tail, hlen c0 h0]
      rfl

theorem chunkRows_flatten (m : Nat) (hm : 1 ≤ m) : ∀ (rows : List (List Pat)) (fuel : Nat),
    (∀ r ∈ rows, r.length = m) → rows.flatten.length ≤ fuel → chunkRows m fuel rows.flatten = rows := by
  intro rows
  induction rows with
  | nil => intro fuel _ _; cases fuel <;> rfl
  | cons r rs ih =>
    intro fuel hr hf
    have hrl : r.length = m := hr r List.mem_cons_self
    cases r with
    | nil => subst hrl; cases hm
    | cons y ys =>
      cases fuel with
      | zero => cases hf
      | succ f =>
        simp only [List.flatten_cons, List.cons_append, chunkRows]
        rw [← List.cons_append, List.take_left' hrl, List.drop_left' hrl,
          ih f (fun r hr' => hr r (List.mem_cons_of_mem _ hr')) (by
            simp only [List.flatten_cons, List.length_append, List.length_cons] at hf; omega)]

/-- **A `PDict` built from a list of dicts is the dict of the one-shot sequences of its columns** (what the
    constructor does; `rows` = the dicts' values in key order, `m ≥ 1` keys). -/
theorem pdict_forms_agree_struct (m : Nat) (hm : 1 ≤ m) (rows : List (List Pat)) (keys : List Val) (hk : keys.length = m)
    (hr : ∀ r ∈ rows, r.length = m) :
    construct (.node .dict rows.flatten { n0 := 1, buf := keys }) =
      .node .dict ((List.range m).map (fun j => seqOnce (dictColumn rows j))) { n0 := 0, buf := keys } := by
  simp only [construct, if_true, dictColumns, hk]
  rw [chunkRows_flatten m hm rows _ hr (Nat.le_refl _)]

/-- The columns of `m`-column rows. -/
def colsOfRows (m : Nat) (arows : List (List Atom)) : List (List Atom) :=
  (List.range m).map (fun j => arows.map (fun r => r.getD j Atom.none))

def constA (a : Atom) : Pat := Pat.const (.a a)

theorem dictColumn_const (arows : List (List Atom)) (j : Nat) (hj : ∀ r ∈ arows, j < r.length) :
    dictColumn (arows.map (fun r => r.map constA)) j = (arows.map (fun r => r.getD j Atom.none)).map constA := by
  induction arows with
  | nil => rfl
  | cons r rs ih =>
    have ih' := ih fun r hr' => hj r (List.mem_cons_of_mem _ hr')
    simp only [dictColumn] at ih' ⊢
    simp only [List.map_cons, List.filterMap_cons, List.getElem?_map, List.getElem?_eq_getElem (hj r List.mem_cons_self),
      Option.map_some, ih', List.getD_eq_getElem?_getD, Option.getD_some]

theorem range_getD {α : Type} (r : List α) (d : α) : (List.range r.length).map (fun j => r.getD j d) = r := by
  apply List.ext_getElem
  · simp
  · intro i h1 h2
    simp only [List.getElem_map, List.getElem_range, List.getD_eq_getElem?_getD, List.getElem?_eq_getElem h2, Option.getD_some]

theorem rowsOf_colsOfRows (m : Nat) (arows : List (List Atom)) (hr : ∀ r ∈ arows, r.length = m) :
    rowsOf arows.length (colsOfRows m arows) = arows := by
  induction arows with
  | nil => rfl
  | cons r rs ih =>
    simp only [List.length_cons, rowsOf, colsOfRows, List.map_map, List.map_cons]
    -- heads and tails of the columns of `r :: rs` are `r` and the columns of `rs`
    show (List.range m).map (fun j => r.getD j Atom.none) :: rowsOf rs.length (colsOfRows m rs) = r :: rs
    rw [← hr r List.mem_cons_self, range_getD, hr r List.mem_cons_self, ih fun r hr' => hr r (List.mem_cons_of_mem _ hr')]

theorem constItems_const (fuel : Nat) (c : List Atom) : ConstItems (stepF (fuel + 1)) (c.map constA) (c.map Val.a) := by
  induction c with
  | nil => exact .nil
  | cons x xs ih => exact .cons (constUnder_stepF fuel _) ih

theorem seqOnce_yields (fuel : Nat) (c : List Atom) : Yields (stepF (fuel + 2)) (seqOnce (c.map constA)) c := by
  intro n
  rw [recOuts_stepF, seqOnce, outs_eq_clsOuts]
  exact (seq_reference_const _ _ _ 1 (constItems_const fuel c) n).trans (congrArg (pad n) (List.append_nil _))

theorem All2.map_left {α β : Type} {R : α → β → Prop} {f : β → α} (h : ∀ x, R (f x) x) (l : List β) : All2 R (l.map f) l := by
  induction l with
  | nil => exact .nil
  | cons x xs ih => exact .cons (h x) ih

/-- **A dict of one-shot sequences and the corresponding list of dicts describe the same event stream**: for rows
    of scalars over `m ≥ 1` keys, (1) `PDict([row₀, row₁, …])` IS the object `PDict({key_j: PSequence(column_j, 1)})`
    and (2) that object yields exactly `row₀, row₁, …` and then StopIteration for ever. -/
theorem pdict_forms_agree (fuel n m : Nat) (hm : 1 ≤ m) (arows : List (List Atom)) (keys : List Val)
    (hk : keys.length = m) (hr : ∀ r ∈ arows, r.length = m) :
    construct (.node .dict (arows.map (fun r => r.map constA)).flatten { n0 := 1, buf := keys }) =
      .node .dict ((colsOfRows m arows).map (fun c => seqOnce (c.map constA))) { n0 := 0, buf := keys } ∧
    outs (fuel + 3) n (.node .dict ((colsOfRows m arows).map (fun c => seqOnce (c.map constA))) { n0 := 0, buf := keys }) =
      pad n (arows.map Val.tup) := by
  constructor
  · rw [pdict_forms_agree_struct m hm _ keys hk (List.forall_mem_map.mpr fun r h => (List.length_map _).trans (hr r h)),
      colsOfRows, List.map_map]
    exact congrArg (Pat.node .dict · _) (List.map_congr_left fun j hj =>
      congrArg seqOnce (dictColumn_const arows j fun r h => hr r h ▸ List.mem_range.mp hj))
  · have hne : colsOfRows m arows ≠ [] := by
      rw [colsOfRows, Ne, List.map_eq_nil_iff, List.range_eq_nil]
      omega
    rw [outs_eq_clsOuts]
    exact (dict_reference_finite (stepF (fuel + 2)) arows.length _ _ _ n hne (All2.map_left (seqOnce_yields fuel) _)
      (List.forall_mem_map.mpr fun j _ => List.length_map _)).trans (by rw [rowsOf_colsOfRows m arows hr])

theorem dictFind_cons (k : Atom) (x : Val) (xs : List Val) (i : Nat) :
    (∃ k0, x = .a k0 ∧ dictKeyEq k k0 = true ∧ dictFind k (x :: xs) i = some i) ∨
    ((∀ k'', x = .a k'' → dictKeyEq k k'' = false) ∧ dictFind k (x :: xs) i = dictFind k xs (i + 1)) := by
  cases x with
  | a k0 =>
    by_cases heq : dictKeyEq k k0 = true
    · exact .inl ⟨k0, rfl, heq, if_pos heq⟩
    · exact .inr ⟨fun k'' e => by cases e; exact Bool.eq_false_iff.mpr heq, if_neg heq⟩
  | tup ys => exact .inr ⟨nofun, rfl⟩

/-- The position found by the lookup holds a key equal to the one looked up, and no earlier key is equal to it. -/
theorem dictFind_some (k : Atom) (keys : List Val) : ∀ (i j : Nat), dictFind k keys i = some j →
    ∃ (t : Nat) (k' : Atom), j = i + t ∧ keys[t]? = some (Val.a k') ∧ dictKeyEq k k' = true ∧
      ∀ (u : Nat), u < t → ∀ (k'' : Atom), keys[u]? = some (Val.a k'') → dictKeyEq k k'' = false := by
  induction keys with
  | nil => intro i j h; cases h
  | cons x xs ih =>
    intro i j h
    rcases dictFind_cons k x xs i with ⟨k0, rfl, heq, e⟩ | ⟨hne, e⟩
    · exact ⟨0, k0, Option.some.inj (h.symm.trans e), rfl, heq, nofun⟩
    · obtain ⟨t, k', e1, e2, e3, e4⟩ := ih (i + 1) j (e ▸ h)
      refine ⟨t + 1, k', e1.trans (Nat.add_right_comm ..), e2, e3, fun u hu k'' hk'' => ?_⟩
      cases u with
      | zero => exact hne k'' (Option.some.inj hk'')
      | succ u => exact e4 u (Nat.lt_of_succ_lt_succ hu) k'' hk''

/-- A failed lookup (KeyError) means no key is equal to the one looked up. -/
theorem dictFind_none (k : Atom) (keys : List Val) : ∀ (i : Nat), dictFind k keys i = Option.none →
    ∀ (u : Nat) (k'' : Atom), keys[u]? = some (Val.a k'') → dictKeyEq k k'' = false := by
  induction keys with
  | nil => intro i _ u k'' h; cases h
  | cons x xs ih =>
    intro i h u k'' hk''
    rcases dictFind_cons k x xs i with ⟨k0, rfl, heq, e⟩ | ⟨hne, e⟩
    · cases e.symm.trans h
    · cases u with
      | zero => exact hne k'' (Option.some.inj hk'')
      | succ u => exact ih (i + 1) (e ▸ h) u k'' hk''

/-- **PDictKey(pattern of dicts, key)**: the `i`-th value is the `i`-th key looked up in the `i`-th dict (KeyError when
    it is absent), for arbitrary dict and key patterns, as long as both yield. -/
theorem dictKey_reference (rec : Rec) (n : Nat) (key d : Pat) (st : St) (h0 : st.n0 = 0) (ds : List (List Atom))
    (ks : List Val) (hd : recOuts rec n d = ds.map (fun xs => Out.val (.tup xs))) (hk : recOuts rec n key = ks.map Out.val) :
    clsOuts stepDictKey rec n [key, d] st = List.zipWith (fun xs k => dictLookup st.buf xs k) ds ks := by
  induction n generalizing key d ds ks with
  | zero =>
    cases ds with
    | nil => rfl
    | cons _ _ => cases hd
  | succ n ih =>
    cases ds with
    | nil => cases hd
    | cons xs ds =>
      cases ks with
      | nil => cases hk
      | cons k ks =>
        obtain ⟨hd1, hd2⟩ := List.cons.inj hd
        obtain ⟨hk1, hk2⟩ := List.cons.inj hk
        rw [clsOuts, stepDictKey_vals (kids := [key, d]) h0 hd1 hk1, List.zipWith_cons_cons]
        exact congrArg _ (ih _ _ _ _ hd2 hk2)

/-- **PDictKey(plain dict, key)**: the value stored under the key (resolved if it is a pattern), KeyError when the
    key is absent. -/
theorem dictKey_plain_reference (rec : Rec) (key : Pat) (vals : List Pat) (st : St) (h1 : st.n0 ≠ 0) (k : Atom)
    (hk : (rec key).out = .val (.a k)) :
    (∀ j v, dictFind k st.buf 0 = some j → vals[j]? = some v → (stepDictKey rec (key :: vals) st).out = (rec v).out) ∧
    (dictFind k st.buf 0 = Option.none → (stepDictKey rec (key :: vals) st).out = .err .keyError) := by
  constructor
  · intro j v hj hv
    simp [stepDictKey, h1, stepKid, hk, hj, hv]
  · intro hj
    simp [stepDictKey, h1, stepKid, hk, hj]

section Example
/-- `PLSystem("N[+N]-N", 2, False)` -/
example : clsOuts stepLsystem (stepF 5) 11 [] { v0 := .str "N[+N]-N", n0 := 2, n1 := 0 } =
    [.val (.int 0), .val (.int 1), .val (.int (-1)), .val (.int 0), .val (.int 1), .val (.int (-1)),
     .val (.int (-2)), .val (.int (-1)), .val (.int (-3)), .stop, .stop] := by decide +kernel
example : turtle (lsysExpand "N[+N]-N".toList 2) 0 [] =
    [.val (.int 0), .val (.int 1), .val (.int (-1)), .val (.int 0), .val (.int 1), .val (.int (-1)),
     .val (.int (-2)), .val (.int (-1)), .val (.int (-3))] := by decide +kernel
example : lsysExpand "N+N".toList 2 = "N+N+N+N".toList := by decide +kernel
/-- `loop=True` and a rest token: the system restarts at the rest (`PLSystem("N+N_", 1, True)` never ends) -/
example : clsOuts stepLsystem (stepF 5) 6 [] { v0 := .str "N+N_", n0 := 1, n1 := 1 } =
    [.val (.int 0), .val (.int 1), .val (.int 0), .val (.int 1), .val (.int 0), .val (.int 1)] := by decide +kernel
example : clsOuts stepLsystem (stepF 5) 4 [] { v0 := .str "N+N_", n0 := 1, n1 := 0 } =
    [.val (.int 0), .val (.int 1), .val Val.none, .stop] := by decide +kernel
/-- `PDict({"a": PSequence([1, 2, 3], 1), "b": 5})` -/
example : clsOuts stepTuple (stepF 5) 5
    [.node .seq [Pat.const (.int 1), Pat.const (.int 2), Pat.const (.int 3)] { n0 := 1 }, Pat.const (.int 5)] {} =
    [.val (.tup [.int 1, .int 5]), .val (.tup [.int 2, .int 5]), .val (.tup [.int 3, .int 5]), .stop, .stop] := by decide +kernel
/-- `PDict([{"a": 1, "b": 2}, {"a": 3, "b": 4}])` is `PDict({"a": PSequence([1, 3], 1), "b": PSequence([2, 4], 1)})` -/
example : construct (.node .dict [constA (.int 1), constA (.int 2), constA (.int 3), constA (.int 4)] { n0 := 1, buf := [.str "a", .str "b"] }) =
    .node .dict [seqOnce [constA (.int 1), constA (.int 3)], seqOnce [constA (.int 2), constA (.int 4)]] { n0 := 0, buf := [.str "a", .str "b"] } := by
  rfl
example : outs 5 4 (construct (.node .dict [constA (.int 1), constA (.int 2), constA (.int 3), constA (.int 4)] { n0 := 1, buf := [.str "a", .str "b"] })) =
    [.val (.tup [.int 1, .int 2]), .val (.tup [.int 3, .int 4]), .stop, .stop] := by decide +kernel
/-- `PDictKey(PDict({"a": PSequence([1, 2, 3]), "b": 7}), PSequence(["a", "b", "c"]))` -/
example : clsOuts stepDictKey (stepF 5) 3
    [.node .seq [Pat.const (.str "a"), Pat.const (.str "b"), Pat.const (.str "c")] { n0 := -1 },
     .node .dict [.node .seq [Pat.const (.int 1), Pat.const (.int 2), Pat.const (.int 3)] { n0 := -1 }, Pat.const (.int 7)] {}]
    { n0 := 0, buf := [.str "a", .str "b"] } = [.val (.int 1), .val (.int 7), .err .keyError] := by decide +kernel
end Example

end IsobarV.C10Misc
