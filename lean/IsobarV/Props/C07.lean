/-
C07 — tracks do not interfere; intra-tick order is fixed; shared static state agrees.
-/
import IsobarV.Sched.Solo
import IsobarV.Static.Model

namespace IsobarV.C07
open IsobarV.Sched

/-- **Intra-tick order**: the device calls of one `Timeline.tick` are, in this order, all due note-offs
    of all tracks (track order), then — after the pending starts have been applied — the calls of the event
    phase (`event_phase_in_order`: track by track in snapshot order). -/
theorem tick_phase_order (W : World) (tl : TL) :
    (tickTL W tl).calls =
      phaseOffsCalls tl.q tl.tracks ++
      (phaseTracks W (fireActions (phaseOffs tl)) ((fireActions (phaseOffs tl)).tracks.map Track.id)).calls := by
  obtain ⟨_, rfl, h, -⟩ := tickTL_cases W tl
  exact h

/-- The note-off phase only contains note-offs … -/
theorem phase_one_only_offs (q : Nat) (ts : List Track) :
    ∀ c ∈ phaseOffsCalls q ts, ∃ n ch, c = Call.noteOff n ch := by
  intro c hc
  simp only [phaseOffsCalls, List.mem_flatten, List.mem_map] at hc
  obtain ⟨l, ⟨t, _, rfl⟩, hc⟩ := hc
  simp only [offCalls, List.mem_map] at hc
  obtain ⟨o, _, rfl⟩ := hc
  exact ⟨_, _, rfl⟩

/-- … and in the event phase the tracks of the snapshot are served strictly in order: the calls of the
    snapshot `tid :: rest` start with everything the first track does; what follows is (after the
    release of its notes if it failed in tolerant mode) the event phase of `rest`, or nothing if an
    exception escaped. -/
theorem event_phase_in_order (W : World) (tl : TL) (tid : Nat) (rest : List Nat) :
    (phaseTracks W tl (tid :: rest)).calls = (tickTrack W tl tid).calls ∨
    (∃ tl', (phaseTracks W tl (tid :: rest)).calls = (tickTrack W tl tid).calls ++ (phaseTracks W tl' rest).calls) ∨
    (∃ tl', (phaseTracks W tl (tid :: rest)).calls =
        (tickTrack W tl tid).calls ++ flushOf (tickTrack W tl tid).tl tid ++ (phaseTracks W tl' rest).calls) := by
  simp only [phaseTracks]
  split
  · left; rfl
  · split
    · right; right; exact ⟨_, rfl⟩
    · left; rfl
  · right; left; exact ⟨_, rfl⟩

/-! ### Non-interference

In a world whose tracks do not call the timeline API (separate pattern objects, no action callbacks)
and with unique track identities, one timeline tick is: every track's due note-offs; then, track by
track in scheduling order, a function of THAT TRACK ALONE (`soloTick` after its own note-offs and its
own pending starts).  Hence several tracks produce exactly the merge of what each produces alone. -/

theorem tick_decomposes (W : World) (hW : NoActions W) (tl : TL) (hnd : (tl.tracks.map Track.id).Nodup) :
    (tickTL W tl).calls = phaseOffsCalls tl.q tl.tracks ++ (soloPhase W tl.q tl.tolerant (prepared tl)).calls ∧
    (tickTL W tl).tl.tracks = (soloPhase W tl.q tl.tolerant (prepared tl)).tracks := by
  obtain ⟨r, hr, hcalls, htracks, -⟩ := tickTL_cases W tl
  rw [hcalls, htracks, hr, phase_solo W hW tl hnd]
  exact ⟨rfl, rfl⟩

/-- What one track contributes to the event phase of a tick: its own calls, plus the release of its
    notes if it failed. -/
def contribution (W : World) (q : Nat) (t : Track) : List Call :=
  (soloTick W q t).calls ++ (if (soloTick W q t).out = .raised then (soloTick W q t).t.flushCalls else [])

/-- The track as it stays in the timeline after its tick (none = removed: finished, or failed). -/
def survivor (W : World) (q : Nat) (t : Track) : Option Track :=
  if (soloTick W q t).out = .ok ∧ ¬ ((soloTick W q t).t.finished = true ∧ (soloTick W q t).t.rwd = true)
  then some (soloTick W q t).t else none

theorem survivor_eq_some {W : World} {q : Nat} {t u : Track} (h : survivor W q t = some u) : (soloTick W q t).t = u := by
  rw [survivor] at h
  split at h
  · exact Option.some.inj h
  · cases h

theorem filterMap_cons_toList {α β : Type} (f : α → Option β) (a : α) (l : List α) :
    (a :: l).filterMap f = (f a).toList ++ l.filterMap f := by
  cases h : f a <;> simp [h]

theorem soloPhase_cons (W : World) (q : Nat) (tol : Bool) (t : Track) (ts : List Track)
    (hd : (soloTick W q t).out ≠ .diverged) (hmode : tol = true ∨ (soloTick W q t).out = .ok) :
    (soloPhase W q tol (t :: ts)).calls = contribution W q t ++ (soloPhase W q tol ts).calls ∧
    (soloPhase W q tol (t :: ts)).tracks = (survivor W q t).toList ++ (soloPhase W q tol ts).tracks ∧
    (soloPhase W q tol (t :: ts)).res = (soloPhase W q tol ts).res := by
  rw [soloPhase, contribution, survivor]
  cases hout : (soloTick W q t).out with
  | diverged => exact absurd hout hd
  | raised =>
    have htol : tol = true := hmode.resolve_right (fun h => nomatch hout.symm.trans h)
    subst htol
    exact ⟨rfl, rfl, rfl⟩
  | ok =>
    by_cases hfin : (soloTick W q t).t.finished = true ∧ (soloTick W q t).t.rwd = true <;> simp [hfin]

/-- **The event phase is the merge of the tracks' own contributions, in scheduling order; the track
    list afterwards is the list of the tracks' own survivors** — in tolerant mode with any faults, and
    (`Or.inr`) in any mode when no track fails. -/
theorem event_phase_is_merge (W : World) (q : Nat) (tolerant : Bool) (ts : List Track)
    (hdom : ∀ t ∈ ts, (soloTick W q t).out ≠ .diverged)
    (hmode : tolerant = true ∨ ∀ t ∈ ts, (soloTick W q t).out = .ok) :
    (soloPhase W q tolerant ts).calls = (ts.map (contribution W q)).flatten ∧
    (soloPhase W q tolerant ts).tracks = ts.filterMap (survivor W q) ∧
    (soloPhase W q tolerant ts).res = .ok := by
  induction ts with
  | nil => exact ⟨rfl, rfl, rfl⟩
  | cons t ts ih =>
    rw [List.forall_mem_cons] at hdom
    obtain ⟨i1, i2, i3⟩ := ih hdom.2 (hmode.imp_right fun h => (List.forall_mem_cons.mp h).2)
    obtain ⟨s1, s2, s3⟩ := soloPhase_cons W q tolerant t ts hdom.1 (hmode.imp_right fun h => h t (List.mem_cons_self ..))
    exact ⟨by rw [s1, i1]; rfl, by rw [s2, i2, filterMap_cons_toList], s3.trans i3⟩

/-- **Non-interference** (one tick): the calls of a multi-track tick are the note-off phase followed
    by each track's own contribution, and the tracks it leaves are the tracks' own survivors; `contribution`
    and `survivor` are functions of the one track (`solo_run` and `alone_is_the_solo_timeline` of `Props/C07Runs.lean` compare
    with the timeline that holds the track alone). -/
theorem non_interference (W : World) (hW : NoActions W) (tl : TL) (hnd : (tl.tracks.map Track.id).Nodup)
    (hdom : ∀ t ∈ prepared tl, (soloTick W tl.q t).out ≠ .diverged)
    (hmode : tl.tolerant = true ∨ ∀ t ∈ prepared tl, (soloTick W tl.q t).out = .ok) :
    (tickTL W tl).calls =
      phaseOffsCalls tl.q tl.tracks ++ ((prepared tl).map (contribution W tl.q)).flatten ∧
    (tickTL W tl).tl.tracks = (prepared tl).filterMap (survivor W tl.q) := by
  obtain ⟨d1, d2⟩ := tick_decomposes W hW tl hnd
  obtain ⟨m1, m2, _⟩ := event_phase_is_merge W tl.q tl.tolerant (prepared tl) hdom hmode
  exact ⟨by rw [d1, m1], by rw [d2, m2]⟩

/-- The same formula for one tick of the timeline holding one track alone: what a track produces alone. -/
theorem solo_run (W : World) (hW : NoActions W) (tl : TL) (t : Track)
    (hdom : ∀ u ∈ prepared { tl with tracks := [t] }, (soloTick W tl.q u).out ≠ .diverged)
    (hmode : tl.tolerant = true ∨ ∀ u ∈ prepared { tl with tracks := [t] }, (soloTick W tl.q u).out = .ok) :
    (tickTL W { tl with tracks := [t] }).calls =
      phaseOffsCalls tl.q [t] ++ ((prepared { tl with tracks := [t] }).map (contribution W tl.q)).flatten :=
  (non_interference W hW { tl with tracks := [t] } (by simp) hdom hmode).1

/-! ### Shared static state (`PStaticPattern`, `Globals`)

`Static/Model.lean` is the state machine of `PStaticPattern.__next__` over read times; the harness
feeds the real pattern's read times to it and compares the element returned (`driver static`). -/

open IsobarV.Static in
theorem read_cases (s : Static.St) (t d : Rat) :
    (s.read t d = s ∧ ∃ st, s.start = some st ∧ ¬ d ≤ t - st) ∨
    (s.read t d = { idx := s.idx + 1, cur := s.idx, start := some t } ∧ ∀ st, s.start = some st → d ≤ t - st) := by
  unfold Static.St.read
  cases hs : s.start with
  | none => exact Or.inr ⟨rfl, fun _ h => nomatch h⟩
  | some st =>
    by_cases h : d ≤ t - st
    · exact Or.inr ⟨if_pos h, fun _ e => Option.some.inj e ▸ h⟩
    · exact Or.inl ⟨if_neg h, st, rfl, h⟩

open IsobarV.Static in
/-- A read before the held element's duration has elapsed keeps the value (and the selection time). -/
theorem static_keeps (s : Static.St) (t d st : Rat) (hs : s.start = some st) (h : ¬ d ≤ t - st) :
    s.read t d = s :=
  (read_cases s t d).elim (·.1) fun ⟨_, h'⟩ => absurd (h' st hs) h

open IsobarV.Static in
/-- **Idempotent at a fixed time**: however often a static pattern is read at one time (by one track or
    by several), the state after the first read is final — every reader of that time sees one value. -/
theorem static_idempotent (s : Static.St) (t d : Rat) (hd : 0 < d) :
    (s.read t d).read t d = s.read t d := by
  rcases read_cases s t d with ⟨e, _⟩ | ⟨e, _⟩
  · rw [e, e]
  · rw [e]
    exact static_keeps _ t d t rfl (by rw [Rat.sub_self]; exact Rat.not_le.mpr hd)

open IsobarV.Static in
/-- **Never skipped**: a read advances by at most one element. -/
theorem static_never_skips (s : Static.St) (t d : Rat) :
    (s.read t d).idx = s.idx ∨ (s.read t d).idx = s.idx + 1 :=
  (read_cases s t d).imp (fun h => congrArg Static.St.idx h.1) (fun h => congrArg Static.St.idx h.1)

open IsobarV.Static in
/-- **Held at least its duration**: the value changes at a read only if the current element has been
    held for at least `d` beats since the read that selected it — however often it was read in between. -/
theorem static_hold (s : Static.St) (t d st : Rat) (hs : s.start = some st)
    (hchg : (s.read t d).idx ≠ s.idx) : d ≤ t - st :=
  (read_cases s t d).elim (fun h => absurd (congrArg Static.St.idx h.1) hchg) (fun h => h.2 st hs)

open IsobarV.Static in
/-- **A rewind (a constructor built around the shared pattern, `PReset`, `all()`, `Timeline.reset`) does not
    cut the held value short**: a read before the duration has elapsed returns the very element that was
    being held, at the same selection time — only the element that FOLLOWS starts over (index 0). -/
theorem static_rewind_keeps_hold (s : Static.St) (t d st : Rat) (hs : s.start = some st) (h : ¬ d ≤ t - st) :
    (s.rewind.read t d).held = s.held ∧ (s.rewind.read t d).start = s.start ∧ (s.rewind.read t d).idx = 0 := by
  have hs' : s.rewind.start = some st := hs
  rw [static_keeps s.rewind t d st hs' h]
  exact ⟨rfl, rfl, rfl⟩

open IsobarV.Static in
/-- … and once it has elapsed the next read serves the inner pattern's first element. -/
theorem static_rewind_restarts (s : Static.St) (t d st : Rat) (hs : s.start = some st) (h : d ≤ t - st) :
    (s.rewind.read t d).held = 0 ∧ (s.rewind.read t d).start = some t := by
  simp [Static.St.read, hs, h, Static.St.held, Static.St.rewind]

open IsobarV.Static in
/-- What a read returns is the element selected by the last change: without a rewind, element `idx - 1`. -/
theorem static_read_held (s : Static.St) (t d : Rat) (h : s.idx = s.cur + 1 ∨ s.start = none) :
    (s.read t d).idx = (s.read t d).held + 1 := by
  rcases read_cases s t d with ⟨e, st, hs, _⟩ | ⟨e, _⟩
  · rw [e]
    exact h.resolve_right (fun hn => nomatch hs.symm.trans hn)
  · rw [e]; rfl

open IsobarV.Static in
/-- **A globals read returns the latest value set, or the given default.** -/
theorem globals_get_set (m : Static.GMap) (k k' : String) (v dflt : Int) :
    gget (gset m k v) k dflt = v ∧ (k' ≠ k → gget (gset m k v) k' dflt = gget m k' dflt) ∧ gget [] k dflt = dflt := by
  refine ⟨by simp [gget, gset], fun h => ?_, rfl⟩
  have : ((k, v).1 == k') = false := by simpa using fun hh => h hh.symm
  simp [gget, gset, this]

example : (Static.reads 2 {} [0, 1, 1, 2, 3, 4, 9]).idx = 4 := by decide +kernel
example : ((Static.reads 2 {} [0, 1, 2, 3]).rewind.read (7/2) 2).held = 1 ∧
          (((Static.reads 2 {} [0, 1, 2, 3]).rewind.read (7/2) 2).read 4 2).held = 0 := by decide +kernel

end IsobarV.C07
