/-
C06 over whole runs: a track pulls exactly min(count, length of its pattern) events.

`C06.count_bounded` etc. are about one pull.  Here the statement is about the whole life of a track inside
a timeline of any number of tracks: along the track's own trajectory (`C07.alone`, the way it evolves by
`C07.run_is_merge`) the number of events it has pulled (`Track.count`) never exceeds either bound, and at the
moment it is marked finished — the only way it leaves a fault-free timeline — it has pulled exactly
`min(count, length)` of them (`count = 0`: unbounded, i.e. `length`).  Pulled, not performed: the pull loop
may pull several events in one tick and then performs only the last.  A tick pulls at most one event when
durations are at least a tick and the track is not behind (`Sched.pullLoop_once`), which is not assumed here.
-/
import IsobarV.Props.C06
import IsobarV.Props.C07Runs

namespace IsobarV.C06
open IsobarV.Sched IsobarV.C07

/-- The stream `sid` has exactly `L` events. -/
def HasLength (W : World) (sid L : Nat) : Prop :=
  (∀ pos, pos < L → ∃ d a k, W sid pos = some (.ev d a k)) ∧ (∀ pos, L ≤ pos → W sid pos = none)

/-- The number of events the track is to pull: `min(count, length)`, `count = 0` meaning no limit. -/
def quota (maxCount L : Nat) : Nat := if maxCount = 0 then L else min maxCount L

/-- What is carried along the life of a track playing the stream `sid` of length `L` from its beginning
    (`pos = count`): the count stays within the quota, and a finished track has reached it. -/
structure LifeInv (sid L : Nat) (t : Track) : Prop where
  sid : t.sid = sid
  pos : t.pos = t.count
  le : t.count ≤ quota t.maxCount L
  fin : t.finished = true → t.count = quota t.maxCount L

theorem quota_le_len (m L : Nat) : quota m L ≤ L := by
  unfold quota; split
  · exact Nat.le_refl L
  · exact Nat.min_le_right m L
theorem quota_le_max (m L : Nat) (hm : m ≠ 0) : quota m L ≤ m := by
  rw [quota, if_neg hm]; exact Nat.min_le_left m L
theorem succ_le_quota {c m L : Nat} (hL : c < L) (hm : ¬ (m ≠ 0 ∧ m ≤ c)) : c + 1 ≤ quota m L := by
  unfold quota; split
  · exact hL
  · exact Nat.le_min.mpr ⟨Nat.lt_of_not_le fun h => hm ⟨‹_›, h⟩, hL⟩

theorem getNext_life {W : World} (hF : Faultless W) {sid L : Nat} (hL : HasLength W sid L) (t : Track) (h : LifeInv sid L t) :
    LifeInv sid L (t.getNext W).t ∧ (t.getNext W).t.maxCount = t.maxCount ∧
    (t.getNext W).t.finished = t.finished ∧
    ((t.getNext W).r = .stop → (t.getNext W).t.count = quota t.maxCount L) := by
  obtain ⟨hsid, hpos, hle, hfin⟩ := h
  rcases getNext_cases W t with ⟨e, hwhy⟩ | ⟨p, _, hw | hw⟩ | ⟨d, a, k, e, hw, hlim⟩
  · rw [e]
    refine ⟨⟨hsid, hpos, hle, hfin⟩, rfl, rfl, fun _ => Nat.le_antisymm hle ?_⟩
    rcases hwhy with hlim | hw
    · exact Nat.le_trans (quota_le_max _ L hlim.1) hlim.2
    · -- the stream is exhausted: count = pos ≥ L ≥ quota
      have hge : L ≤ t.pos := Nat.le_of_not_lt fun hlt => by
        obtain ⟨d, a, k, he⟩ := hL.1 t.pos hlt
        rw [hsid, he] at hw; cases hw
      exact hpos ▸ Nat.le_trans (quota_le_len _ L) hge
  · exact absurd hw (hF.1 _ _)
  · exact absurd hw (hF.2.1 _ _)
  · rw [e]
    have hlt : t.count < L := hpos ▸ Nat.lt_of_not_le fun hge => by
      rw [hsid, hL.2 t.pos hge] at hw; cases hw
    -- a finished track has reached its quota, so it pulls no further event
    exact ⟨⟨hsid, congrArg (· + 1) hpos, succ_le_quota hlt hlim,
      fun hf => absurd (hfin hf ▸ succ_le_quota hlt hlim) (Nat.not_succ_le_self _)⟩, rfl, rfl, fun h => nomatch h⟩

theorem pullLoop_life {W : World} (hF : Faultless W) {sid L : Nat} (hL : HasLength W sid L) (q : Nat) :
    ∀ (fuel : Nat) (t : Track) (last : Pull), LifeInv sid L t →
      (last = .stop → t.count = quota t.maxCount L ∨ t.nxt ≤ (t.cur * q : Nat)) →
      LifeInv sid L (Track.pullLoop W q fuel t last).t ∧ (Track.pullLoop W q fuel t last).t.maxCount = t.maxCount ∧
      (Track.pullLoop W q fuel t last).t.finished = t.finished ∧
      ((Track.pullLoop W q fuel t last).r = .stop →
        (Track.pullLoop W q fuel t last).t.count = quota t.maxCount L) := by
  intro fuel t last h hlast
  obtain ⟨⟨i1, i2, i3⟩, i4⟩ := pullLoop_inv (q := q)
    (I := fun u => LifeInv sid L u ∧ u.maxCount = t.maxCount ∧ u.finished = t.finished)
    (S := fun u => u.count = quota t.maxCount L)
    (fun u ⟨hu, hm, hf⟩ =>
      let ⟨g1, g2, g3, g4⟩ := getNext_life hF hL u hu
      ⟨⟨g1, g2.trans hm, g3.trans hf⟩, fun hr => hm ▸ g4 hr⟩)
    (fun u n ⟨hu, hm, hf⟩ => ⟨⟨hu.sid, hu.pos, hu.le, hu.fin⟩, hm, hf⟩)
    fuel t last ⟨h, rfl, rfl⟩ (fun hl => (hlast hl).symm)
  exact ⟨i1, i2, i3, i4⟩

/-- **One tick of the per-track function keeps the invariant** — in particular a track is marked finished only
    with exactly its quota of events pulled. -/
theorem soloTick_life {W : World} (hF : Faultless W) {sid L : Nat} (hL : HasLength W sid L) (q : Nat) (t : Track)
    (h : LifeInv sid L t) :
    LifeInv sid L (soloTick W q t).t ∧ (soloTick W q t).t.maxCount = t.maxCount := by
  unfold soloTick
  split
  · exact ⟨h, rfl⟩
  · split
    · rename_i hdue
      obtain ⟨p1, p2, p3, p4⟩ := pullLoop_life hF hL q (t.fuel q) t .stop h (fun _ => Or.inr hdue)
      obtain ⟨os, f, cu, he, hf, _⟩ := soloAfterPull_frame q (Track.pullLoop W q (t.fuel q) t .stop)
      rw [he]
      refine ⟨⟨p1.sid, p1.pos, p1.le, fun hfin => ?_⟩, p2⟩
      -- `finished` is new only after a StopIteration, and then the quota is reached
      rcases hf with rfl | hr
      · exact p1.fin hfin
      · exact (p4 hr).trans (congrArg (quota · L) p2.symm)
    · exact ⟨⟨h.sid, h.pos, h.le, h.fin⟩, rfl⟩

/-- One step of the trajectory when no start is pending: preparing the track only releases note-offs. -/
theorem trackNext_life {W : World} (hF : Faultless W) {sid L : Nat} (hL : HasLength W sid L) (f : Frame) (hact : f.actions = [])
    (m : Nat) (v : Track) (h : LifeInv sid L v) :
    LifeInv sid L (soloTick W (f.after m).q (prep (f.after m) v)).t ∧
    (soloTick W (f.after m).q (prep (f.after m) v)).t.maxCount = v.maxCount := by
  have hprep : prep (f.after m) v = v.processOffs (f.after m).q := by
    rw [prep, Frame.after_actions_nil f hact m]; rfl
  rw [hprep]
  exact soloTick_life hF hL _ _ ⟨h.sid, h.pos, h.le, h.fin⟩

/-- **Along its whole life inside the timeline** a track has pulled at most its quota, and — the point of the
    property — a track that has been marked finished has pulled exactly `min(count, length)` events. -/
theorem alone_life {W : World} (hF : Faultless W) {sid L : Nat} (hL : HasLength W sid L) (f : Frame) (hact : f.actions = []) (t : Track)
    (h0 : LifeInv sid L t) (n : Nat) (u : Track) (hu : alone W f n t = some u) :
    LifeInv sid L u ∧ u.maxCount = t.maxCount := by
  induction n generalizing u with
  | zero => cases hu; exact ⟨h0, rfl⟩
  | succ m ih =>
    obtain ⟨v, hv, hvu⟩ := Option.bind_eq_some_iff.mp hu
    obtain ⟨iv, im⟩ := ih v hv
    obtain ⟨sv, sm⟩ := trackNext_life hF hL f hact m v iv
    rw [← survivor_eq_some hvu]
    exact ⟨sv, sm.trans im⟩

/-- **The track leaves a fault-free timeline only finished, and then with exactly its quota pulled.**  If the
    track is still on its trajectory after `n` ticks and gone after `n + 1`, its last state is finished with
    `count = min(maxCount, L)` (`maxCount = 0`: `L`). -/
theorem leaves_with_quota_performed {W : World} (hP : PosDur W) (hF : Faultless W) {sid L : Nat} (hL : HasLength W sid L)
    (f : Frame) (hact : f.actions = []) (t : Track) (h0 : LifeInv sid L t) (n : Nat) (v : Track)
    (hv : alone W f n t = some v) (hgone : alone W f (n + 1) t = none) :
    (soloTick W (f.after n).q (prep (f.after n) v)).t.finished = true ∧
    (soloTick W (f.after n).q (prep (f.after n) v)).t.count = quota t.maxCount L := by
  obtain ⟨iv, im⟩ := alone_life hF hL f hact t h0 n v hv
  obtain ⟨sv, sm⟩ := trackNext_life hF hL f hact n v iv
  have hok := soloTick_ok hP hF (f.after n).q (prep (f.after n) v)
  rw [alone, hv, Option.bind_some, trackNext, survivor] at hgone
  split at hgone
  · cases hgone
  · rename_i hcond
    have hfin : (soloTick W (f.after n).q (prep (f.after n) v)).t.finished = true :=
      Decidable.byContradiction fun hb => hcond ⟨hok, fun hh => hb hh.1⟩
    exact ⟨hfin, (sv.fin hfin).trans (by rw [sm, im])⟩

/-- **In the timeline.**  A timeline of any number of tracks without action callbacks (fault-free world, no start
    pending, stop-when-done off), each track at the beginning of a stream of some finite length: after ANY number of
    ticks every track still in the timeline has pulled at most `min(count, length)` events of its stream, and one
    that is marked finished (kept because it was scheduled with `remove_when_done = False`) exactly that many. -/
theorem events_performed_in_the_timeline (W : World) (hW : NoActions W) (hP : PosDur W) (hF : Faultless W) (tl : TL)
    (hnd : (tl.tracks.map Track.id).Nodup) (hs : tl.stopWhenDone = false) (hact : tl.actions = [])
    (h0 : ∀ t ∈ tl.tracks, ∃ L, HasLength W t.sid L ∧ LifeInv t.sid L t) (n : Nat) :
    ∀ u ∈ (ticks W n tl).tracks, ∃ L, HasLength W u.sid L ∧ u.count ≤ quota u.maxCount L ∧
      (u.finished = true → u.count = quota u.maxCount L) := by
  obtain ⟨h1, _, _⟩ := run_is_merge W hW hP tl hnd (Or.inr hF) hs n
  intro u hu
  rw [h1, stateAfter_tracks] at hu
  obtain ⟨t, ht, htu⟩ := List.mem_filterMap.mp hu
  obtain ⟨L, hL, hinv⟩ := h0 t ht
  obtain ⟨iu, _⟩ := alone_life hF hL (frameOf tl) hact t hinv n u htu
  exact ⟨L, by rw [iu.sid]; exact hL, iu.le, iu.fin⟩

/-- **"… and never when stop-when-done is off", over whole runs and through the documented keyword.**
    `Timeline.run(stop_when_done=False)` applies the setting before the clock starts — the model's `setStopWhenDone false`
    (the harness drives the real `run()` keyword and the attribute alternately against this op) — whatever the setting was
    before (an earlier `run(stop_when_done=True)`); from then on NO tick of the run raises `StopIteration`, however many
    ticks follow and whether or not a track is left. -/
theorem run_keyword_off_never_stops (W : World) (hW : NoActions W) (hP : PosDur W) (tl : TL)
    (hnd : (tl.tracks.map Track.id).Nodup) (hmode : tl.tolerant = true ∨ Faultless W) (n : Nat) :
    (applyOp tl (.setStopWhenDone false)).tl.stopWhenDone = false ∧
    (tickTL W (ticks W n (applyOp tl (.setStopWhenDone false)).tl)).res = .ok := by
  refine ⟨rfl, ?_⟩
  exact (run_is_merge W hW hP (applyOp tl (.setStopWhenDone false)).tl (by simpa [applyOp] using hnd)
    (by simpa [applyOp] using hmode) rfl n).2.2

/-- … while `run(stop_when_done=True)` switches it on and `run()` leaves it as it is (no op). -/
theorem run_keyword_on (tl : TL) : (applyOp tl (.setStopWhenDone true)).tl.stopWhenDone = true ∧
    (applyOp tl (.setStopWhenDone true)).tl.tracks = tl.tracks ∧ (applyOp tl (.setStopWhenDone true)).tl.now = tl.now := by
  simp [applyOp]

/-! A three-event stream; the quota for the limits 0 (none), 2 and 5, and runs with the limits 2 and 5. -/
section Example
def exW : World := fun _ pos =>
  if pos < 3 then some (.ev 2 true (.note [{ note := 60 + pos, amp := 64, len := 1, gpos := true, chan := 0 }])) else none
theorem exW_length : HasLength exW 0 3 :=
  ⟨fun _ h => ⟨_, _, _, if_pos h⟩, fun _ h => if_neg (Nat.not_lt.mpr h)⟩
example : quota 0 3 = 3 ∧ quota 2 3 = 2 ∧ quota 5 3 = 3 := by decide
example : LifeInv 0 3 { (newTrack 0 none 2 true) with started := true } :=
  ⟨rfl, rfl, Nat.zero_le _, fun h => nomatch h⟩
-- the model really pulls min(count, length) events: limits 2 and 5 on the three-event stream
example : ((List.range 12).map (fun n => (ticks exW n { q := 1, tracks := [{ (newTrack 0 none 2 false) with started := true }] }).tracks.map
    (fun t => (t.count, t.finished)))).getLast? = some [(2, true)] := by decide +kernel
example : ((List.range 12).map (fun n => (ticks exW n { q := 1, tracks := [{ (newTrack 0 none 5 false) with started := true }] }).tracks.map
    (fun t => (t.count, t.finished)))).getLast? = some [(3, true)] := by decide +kernel
end Example

end IsobarV.C06
