/-
C04 — `reset()` rewinds any pattern: reset-correctness of the ext2 group (`PMetropolis` after fix 95, `PSequenceAction`,
`PPatternGeneratorAction` with a pure generator function, `PFunc`, `PFilterByKey`, `PNearestNoteInKey`, `PKeyTonic`,
`PKeyScale`) and the instantiated theorem for trees that mix them with the classes of ALL the other groups.

`PSequenceAction.__next__` builds a new inner `PSequence`, whose constructor resets the patterns in its list: the class
is reset-correct relative to invariants closed under an idempotent `reset` (`ClsResetOKR`, as `PReset`).
-/
import IsobarV.Pat.Cls.Ext2Lemmas
import IsobarV.Props.C04_Scalar
import IsobarV.Props.C04_Seq1
import IsobarV.Props.C04_Seq2
import IsobarV.Props.C04_Chance
import IsobarV.Props.C04_Misc

namespace IsobarV.C04Ext2
open IsobarV.Pat IsobarV.C04

/-- `PMetropolis` (fix 95): no sub-patterns; `reset()` overwrites the two counters a step changes. -/
theorem metropolis_ok : ClsResetOK .metropolis := .of_step fun rec kids st =>
  ⟨.of_eq (stepMetropolis_spec rec kids st).1, (stepMetropolis_spec rec kids st).2.2⟩

/-- `PPatternGeneratorAction` with a pure generator function: `Pattern.reset()` rewinds the current sequence, which
    is what a new instance starts with. -/
theorem pga_ok : ClsResetOK .patternGeneratorAction := .of_step fun rec kids st =>
  ⟨.of_eq (stepPga_spec rec kids st).1, (stepPga_spec rec kids st).2.2⟩

-- Classes without own state: `reset()` is the generic reset of the pattern attributes.
theorem func_ok : ClsResetOK .func :=
  poll_ok (fun _ => [0]) funcF _ rfl fun st vs => congrArg _ (funcF_spec st vs).1
theorem filterByKey_ok : ClsResetOK .filterByKey :=
  poll_ok (fun _ => [0, 1]) (pure1 (keyMapVal Tonal.pFilterByKey)) _ rfl (fun _ _ => rfl)
theorem nearestNoteInKey_ok : ClsResetOK .nearestNoteInKey :=
  poll_ok (fun _ => [0, 1]) (pure1 (keyMapVal Tonal.pNearestNoteInKey)) _ rfl (fun _ _ => rfl)
theorem keyTonic_ok : ClsResetOK .keyTonic := poll_ok (fun _ => [0]) (pure1 keyTonicVal) _ rfl (fun _ _ => rfl)
theorem keyScale_ok : ClsResetOK .keyScale := poll_ok (fun _ => [0]) (pure1 keyScaleVal) _ rfl (fun _ _ => rfl)

theorem saResetItems_ok {P : Pat → Prop} (hcl : ∀ k, P k → P (reset k))
    (es : List (Nat × Int)) (kids : List Pat) (hk : ∀ k ∈ kids, P k) :
    (∀ k ∈ saResetItems reset kids es, P k) ∧ (saResetItems reset kids es).map reset = kids.map reset := by
  induction es generalizing kids with
  | nil => exact ⟨hk, rfl⟩
  | cons e es ih =>
    obtain ⟨r1, r2⟩ := resetKid_ok hcl kids (e.1 + 1) hk
    obtain ⟨i1, i2⟩ := ih (resetKid reset kids (e.1 + 1)) r1
    exact ⟨i1, i2.trans r2⟩

theorem saInner_ok {P : Pat → Prop} {rec : Rec} (hrec : RecOK P rec) (kids : List Pat) (st : St) (hk : ∀ k ∈ kids, P k) :
    (∀ k ∈ (saInner rec kids st).kids, P k) ∧ (saInner rec kids st).kids.map reset = kids.map reset ∧
    resetSequenceAction (saInner rec kids st).st = resetSequenceAction st :=
  ⟨((saInner_stepped rec kids st).resetOK hrec hk).1, ((saInner_stepped rec kids st).resetOK hrec hk).2,
    (saInner_spec rec kids st).2⟩

theorem saLoop_ok {P : Pat → Prop} {rec : Rec} (hrec : RecOK P rec)
    (hcl : ∀ k, P k → P (reset k)) (fuel : Nat) :
    ∀ (kids : List Pat) (st : St), (∀ k ∈ kids, P k) →
      (∀ k ∈ (saLoop reset rec fuel kids st).kids, P k) ∧ (saLoop reset rec fuel kids st).kids.map reset = kids.map reset ∧
      resetSequenceAction (saLoop reset rec fuel kids st).st = resetSequenceAction st := by
  induction fuel with
  | zero => intro kids st hk; exact ⟨hk, rfl, rfl⟩
  | succ n ih =>
    intro kids st hk
    obtain ⟨a1, a2, a3⟩ := saInner_ok hrec kids st hk
    obtain ⟨b1, b2⟩ := stepKid_ok hrec (saInner rec kids st).kids 0 a1
    simp only [saLoop]
    -- the step depends on `kids` through the inner step `r` (and the number of items) only
    generalize saInner rec kids st = r at a1 a2 a3 b1 b2 ⊢
    split
    · split
      · split
        · exact ⟨b1, b2.trans a2, a3⟩
        · obtain ⟨c1, c2⟩ := saResetItems_ok hcl (saList (saNextPass r.st) (kids.length - 1)) _ b1
          obtain ⟨d1, d2, d3⟩ := ih _ (saNextPass r.st) c1
          exact ⟨d1, d2.trans (c2.trans (b2.trans a2)), d3.trans a3⟩
        · exact ⟨b1, b2.trans a2, a3⟩
      · exact ⟨b1, b2.trans a2, a3⟩
    · exact ⟨a1, a2, a3⟩

/-- `PSequenceAction`: `reset()` restores `list_orig`, builds a new inner sequence and clears the counter, whatever
    has been consumed, however often `fn` has been applied. -/
theorem sequenceAction_ok : ClsResetOKR .sequenceAction := by
  intro P rec kids st hrec hcl hk
  obtain ⟨h1, h2, h3⟩ := saLoop_ok hrec hcl SAFUEL kids st hk
  exact ⟨h1, h2, congrArg (fun s : St => { s with cur := 0 }) h3⟩

/-- The classes of this group with a plain `ClsResetOK`. -/
def Ext2Cls (c : Cls) : Prop :=
  c = .metropolis ∨ c = .patternGeneratorAction ∨ c = .func ∨ c = .filterByKey ∨ c = .nearestNoteInKey ∨ c = .keyTonic ∨
  c = .keyScale

/-- This group and the classes of all the others (core, seq1, seq2 incl. `PReset`, scalar, chance, misc). -/
def AllClsExt2 (c : Cls) : Prop :=
  c = .sequenceAction ∨ Ext2Cls c ∨ C04Misc.MiscCls c ∨ ScalarCls c ∨ Seq2ClsR c ∨ C04Seq1.Seq1Cls c ∨ ChanceCls c

theorem ext2_ok : ∀ c, AllClsExt2 c → ClsResetOKR c := by
  rintro c (rfl | h | h | h | h | h | h)
  · exact sequenceAction_ok
  · refine ClsResetOK.toR ?_
    rcases h with rfl | rfl | rfl | rfl | rfl | rfl | rfl
    · exact metropolis_ok
    · exact pga_ok
    · exact func_ok
    · exact filterByKey_ok
    · exact nearestNoteInKey_ok
    · exact keyTonic_ok
    · exact keyScale_ok
  · exact ClsResetOK.toR (C04Misc.misc_ok c (.inl h))
  · exact ClsResetOK.toR (scalar_ok c (.inl h))
  · exact seq2R_ok c h
  · exact ClsResetOK.toR (C04Seq1.seq1_ok c (.inl h))
  · exact ClsResetOK.toR (chance_ok c h)

/-- Every class's own-state reset is idempotent (all classes of the model, by cases). -/
theorem ext2_idem (c : Cls) (st : St) : clsReset c (clsReset c st) = clsReset c st := clsReset_idem c st

/-- **C04 for the ext2 group**: any tree built from these classes and those of ALL other groups (patterns that reset their
    sub-patterns while running included), nested to any depth, is rewound by `reset()` after any number of steps — its
    own state and every pattern nested inside it (equality of whole trees). -/
theorem reset_rewinds_ext2 (fuel k : Nat) (p0 : Pat) (hp : AllCls AllClsExt2 p0) (h0 : IsInit p0) :
    reset (after fuel k p0) = p0 := by
  rw [(reset_after_R ext2_ok fuel k p0 hp).2]; exact h0

theorem all_rewinds_ext2 (fuel maximum : Nat) (p0 : Pat) (hp : AllCls AllClsExt2 p0) (h0 : IsInit p0)
    (hok : (nextn fuel maximum p0).err = Option.none) : (all fuel maximum p0).p = p0 := by
  obtain ⟨m, hm⟩ := nextn_is_after fuel maximum p0
  simp only [all, hok]
  rw [hm]; exact reset_rewinds_ext2 fuel m p0 hp h0

/-! Non-vacuity: a sequence action over a list holding a pattern, its repeats taken from a `PKeyTonic`; a metropolis. -/
section Example
def c (i : Int) : Pat := Pat.const (.int i)
def key (t : Int) (s : String) : Pat := Pat.const (.tup [.int t, .str s])
/-- `PSequenceAction([1, PSequence([7, 8], 1), 3], rotate, PKeyTonic(Key(2, "minor")))` -/
def exA : Pat := .node .sequenceAction [.node .keyTonic [key 2 "minor"] {}, c 1, .node .seq [c 7, c 8] { n0 := 1 }, c 3] { n0 := 2 }
/-- `PMetropolis([60, 62], [2, 1], [0, 1])` -/
def exM : Pat := .node .metropolis [] { n2 := 2, buf := [.int 60, .int 62], buf2 := [.int 2, .int 1, .int 0, .int 1] }
example : IsInit exA := by unfold IsInit; rfl
example : IsInit exM := by unfold IsInit; rfl
example : outs 10 8 exA = [.val (.int 1), .val (.int 7), .val (.int 3), .val (.int 7), .val (.int 3), .val (.int 1), .stop, .stop] := by
  decide +kernel
example : reset (after 10 4 exA) = exA := by rfl
example : outs 10 7 exM = [.val (.int 60), .val (.int 60), .val Val.none, .val (.int 62), .val Val.none, .val Val.none, .val (.int 60)] ∧
    outs 10 3 (after 10 4 exM) ≠ outs 10 3 exM ∧ outs 10 3 (reset (after 10 4 exM)) = outs 10 3 exM := by decide +kernel
end Example

end IsobarV.C04Ext2
