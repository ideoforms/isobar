/-
C17 over whole runs: "every other track's output is identical to a run without the failing track", for
any number of ticks (the one-tick form is `C17.fault_isolated`).
-/
import IsobarV.Props.C17
import IsobarV.Props.C07Runs

namespace IsobarV.C17
open IsobarV.Sched IsobarV.C07

/-- In tolerant mode, with a track `bad` that may fail at any time scheduled anywhere among the tracks
    `ts1 ++ ts2`: after any number `n` of ticks
    * the other tracks are exactly the tracks of the run without `bad` (same states, same order), `bad`
      itself being present or already removed;
    * the calls of the next tick are, in each of the two phases, the calls of the run without `bad` with
      `bad`'s own calls inserted at its place — nothing any other track sends is lost, changed or moved
      relative to the other tracks;
    * and the tick returns normally (time goes on). -/
theorem fault_isolated_run (W : World) (hW : NoActions W) (hP : PosDur W) (tl : TL) (ts1 ts2 : List Track) (bad : Track)
    (hnd : ((ts1 ++ bad :: ts2).map Track.id).Nodup) (htol : tl.tolerant = true) (hs : tl.stopWhenDone = false) (n : Nat) :
    ∃ (o1 o2 e1 e2 ob eb : List Call) (b : List Track),
      (ticks W n { tl with tracks := ts1 ++ ts2 }).tracks = ts1.filterMap (alone W (frameOf tl) n) ++ ts2.filterMap (alone W (frameOf tl) n) ∧
      (ticks W n { tl with tracks := ts1 ++ bad :: ts2 }).tracks =
        ts1.filterMap (alone W (frameOf tl) n) ++ b ++ ts2.filterMap (alone W (frameOf tl) n) ∧
      b.length ≤ 1 ∧
      (tickTL W (ticks W n { tl with tracks := ts1 ++ ts2 })).calls = o1 ++ o2 ++ (e1 ++ e2) ∧
      (tickTL W (ticks W n { tl with tracks := ts1 ++ bad :: ts2 })).calls = o1 ++ ob ++ o2 ++ (e1 ++ eb ++ e2) ∧
      (tickTL W (ticks W n { tl with tracks := ts1 ++ bad :: ts2 })).res = .ok := by
  obtain ⟨h1, h2, h3, h4⟩ := C07.fault_isolated_run W hW hP tl ts1 ts2 bad hnd htol hs n
  exact ⟨_, _, _, _, _, _, (alone W (frameOf tl) n bad).toList, h2, h1, Option.length_toList_le, h4, h3,
    (run_with_tracks W hW hP tl (ts1 ++ bad :: ts2) hnd (Or.inl htol) hs n).2.2⟩

/-- **The timeline keeps ticking and its time advances by one tick per tick, for the whole run**: in tolerant mode,
    whatever tracks fail and whenever, after `n` ticks the timeline's time is `n` ticks later and every one of the
    `n` ticks returned normally. -/
theorem time_advances_over_the_run (W : World) (hW : NoActions W) (hP : PosDur W) (tl : TL)
    (hnd : (tl.tracks.map Track.id).Nodup) (htol : tl.tolerant = true) (hs : tl.stopWhenDone = false) (n : Nat) :
    (ticks W n tl).now = tl.now + n ∧ ∀ k, k < n → (tickTL W (ticks W k tl)).res = .ok := by
  refine ⟨?_, fun k _ => (run_is_merge W hW hP tl hnd (Or.inl htol) hs k).2.2⟩
  rw [(run_is_merge W hW hP tl hnd (Or.inl htol) hs n).1]
  exact Frame.after_now (frameOf tl) n

/-! ### The name of a removed track is free again

"removes that track only … identical to a run without the failing track" also for what follows: a track that failed
under tolerance is gone from the list of tracks, and `schedule(..., name=…)` looks names up in that list only — so the
corrected track scheduled under the same name (the live-coding "fix the cell and re-evaluate" step) is a NEW track,
appended and played like any other, exactly as in a run in which the failing track never existed. -/

/-- **Scheduling under a name no scheduled track carries creates a new track** (appended, with the next id), whether
    `replace` is set or not — the timeline keeps no memory of names of tracks that left it. -/
theorem schedule_under_free_name_adds (tl : TL) (sid : Nat) (qz dl count : Option Nat) (rwd : Bool) (nm : Nat) (replace : Bool)
    (hfree : ∀ t ∈ tl.tracks, t.name ≠ some nm) (hroom : tl.maxTracks = 0 ∨ tl.tracks.length < tl.maxTracks) :
    (applyOp tl (.schedule sid qz dl count rwd (some nm) replace)).res = .ok ∧
    (applyOp tl (.schedule sid qz dl count rwd (some nm) replace)).tl.tracks =
      tl.tracks ++ [(updateCore tl (newTrack tl.nextId (some nm) (count.getD 0) rwd) sid qz dl none).t] := by
  have hno : ¬ (tl.maxTracks ≠ 0 ∧ tl.maxTracks ≤ tl.tracks.length) :=
    fun ⟨h1, h2⟩ => hroom.elim h1 (fun h => Nat.not_le_of_lt h h2)
  -- the lookup finds nothing, so `replace` makes no difference
  rw [applyOp, List.find?_eq_none.mpr fun t ht => by simpa using hfree t ht]
  dsimp only
  rw [ite_self, if_neg hno]
  exact ⟨rfl, rfl⟩

/-- … and the new track is `updateCore` of a new record, a function of the call's arguments, the timeline's
    settings, time and id counter (`hcore`: two timelines that agree on those get the same new track, whoever
    carried the name before). -/
theorem schedule_under_free_name_independent (tl tl' : TL) (sid : Nat) (qz dl count : Option Nat) (rwd : Bool) (nm : Nat)
    (replace : Bool) (hfree : ∀ t ∈ tl.tracks, t.name ≠ some nm) (hfree' : ∀ t ∈ tl'.tracks, t.name ≠ some nm)
    (hroom : tl.maxTracks = 0 ∨ tl.tracks.length < tl.maxTracks) (hroom' : tl'.maxTracks = 0 ∨ tl'.tracks.length < tl'.maxTracks)
    (hcore : updateCore tl (newTrack tl.nextId (some nm) (count.getD 0) rwd) sid qz dl none =
             updateCore tl' (newTrack tl'.nextId (some nm) (count.getD 0) rwd) sid qz dl none) :
    (applyOp tl (.schedule sid qz dl count rwd (some nm) replace)).tl.tracks.getLast? =
    (applyOp tl' (.schedule sid qz dl count rwd (some nm) replace)).tl.tracks.getLast? := by
  rw [(schedule_under_free_name_adds tl sid qz dl count rwd nm replace hfree hroom).2,
      (schedule_under_free_name_adds tl' sid qz dl count rwd nm replace hfree' hroom').2, hcore]
  simp

/-- the premises are satisfiable: an empty timeline, and one whose only track carries another name -/
example := schedule_under_free_name_adds { q := 1, tracks := [] } 0 none none none true 3 true (by simp) (Or.inl rfl)
example := schedule_under_free_name_adds { q := 1, tracks := [{ (newTrack 0 (some 2) 0 true) with started := true }], nextId := 1 }
  0 none none none true 3 true (by simp [newTrack]) (Or.inl rfl)

end IsobarV.C17
