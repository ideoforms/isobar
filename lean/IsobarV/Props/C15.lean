/-
C15 — interpolated control tracks emit the exact curve, one value per tick.

The statements are about `IsobarV.Interp.trace f pts count n`: the outcomes (one per tick: a control
message, "finished", or an exception) of the first `n` ticks of a track that
`Timeline.schedule(stream, interpolate=mode, count=count)` starts, where `pts` is the list of events the
stream delivers (`Pt`: event kind, duration in whole ticks, value, control field, channel field), entry
`k` being tick `n₀ + k` (`n₀` = the tick the track starts in, C05).  `trace` runs the state machine of
`IsobarV/Interp/Model.lean`, which mirrors `Track.tick` (interpolating branch) and `PInterpolate`.

They hold for EVERY list of points (any length, rising / falling / flat, any rationals), EVERY segment
length in whole ticks including 0, EVERY `count`, EVERY run length `n` and EVERY easing `f : Rat → Rat`
(`"linear"` is `f = id`, `"cosine"` is `f x = (1 - cos πx)/2`); the clauses that need a property of the
easing name it as a hypothesis (`f 1 = 1`; `0 ≤ f x ≤ 1` on `[0, 1]`).  `P = eff count pts` is the list
of events the track gets to see (`count` truncates the stream); `off P i` is the number of ticks before
point `i` (the sum of the earlier durations); `pt P i` is point `i`.

`WF P` = the domain of the property: every event is a control event and no numeric control/channel
field is followed by a non-numeric one.  `Playable P` = some point with a successor has a non-zero
duration (otherwise the track finishes in its first tick without sending anything).
-/
import IsobarV.Interp.Lemmas

namespace IsobarV.C15
open IsobarV.Interp

/-- what the property assumes of an easing: it starts at 0, ends at 1 and stays in `[0, 1]` -/
structure Easing (f : Rat → Rat) : Prop where
  zero : f 0 = 0
  one : f 1 = 1
  unit : ∀ x, 0 ≤ x → x ≤ 1 → 0 ≤ f x ∧ f x ≤ 1

/-- `"linear"` is an easing (proved; the cosine ease is assumed of libm) -/
theorem linear_is_easing : Easing linear :=
  ⟨rfl, rfl, fun _ h0 h1 => ⟨h0, h1⟩⟩

/-- the `"none"` mode of `PInterpolate` (hold, then jump) is an easing too -/
theorem hold_is_easing : Easing hold := by
  refine ⟨if_pos zero_lt_one, if_neg (lt_irrefl 1), fun _ _ _ => ?_⟩
  unfold hold
  split
  · exact ⟨le_rfl, zero_le_one⟩
  · exact ⟨zero_le_one, le_rfl⟩

/-- **Model = reference.**  For every list of events, `count`, easing and run length the state machine
    produces exactly (a prefix of) the reference trace `ref`: the first played point, then for every
    adjacent pair `a, b` with `a.dur ≠ 0` the `a.dur` messages of the closed form, then `finished`; at a pair
    one of which is not a control event the trace ends with `rejected` instead, at a numeric control or
    channel field followed by a non-numeric one with `typeError`.  This is `Interp.trace_eq_ref`. -/
theorem model_eq_reference (f : Rat → Rat) (pts : List Pt) (count n : Nat) :
    trace f pts count n = (ref f (eff count pts)).take n :=
  trace_eq_ref f pts count n

/-- **`count`.**  A track scheduled with `count = c ≠ 0` behaves exactly like a track over the first `c`
    events of its stream (0 / `None` = no limit). -/
theorem count_truncates (f : Rat → Rat) (pts : List Pt) (count n : Nat) :
    trace f pts count n = trace f (eff count pts) 0 n := by
  rw [trace_eq_ref, trace_eq_ref]
  rfl

/-- **One message per tick, from the first control point to the last.**  With `T` the sum of the segment
    lengths: every tick `n₀ … n₀ + T` carries exactly one control message (the trace has one entry per
    tick), tick `n₀ + T + 1` finishes the track without a message, and nothing follows. -/
theorem one_message_per_tick (f : Rat → Rat) (pts : List Pt) (count n : Nat) {P : List Pt}
    (hP : P = eff count pts) (hwf : WF P) (hpl : Playable P) :
    (∀ k, k ≤ off P (P.length - 1) → k < n → ∃ m, (trace f pts count n)[k]? = some (.msg m)) ∧
    (off P (P.length - 1) + 1 < n → (trace f pts count n)[off P (P.length - 1) + 1]? = some .finished) ∧
    (trace f pts count n).length ≤ off P (P.length - 1) + 2 := by
  subst hP
  have hlen := allMsgs_length f (eff count pts)
  refine ⟨?_, ?_, ?_⟩
  · intro k hk hn
    cases k with
    | zero => exact ⟨_, trace_wf f hwf hpl hn⟩
    | succ k =>
      have hk' : k < (allMsgs f (eff count pts)).length := hlen ▸ hk
      obtain ⟨m, hm⟩ := allMsgs_all_msg f _ _ (List.getElem_mem hk')
      exact ⟨m, by rw [trace_wf f hwf hpl hn, List.getElem?_cons_succ, List.getElem?_append_left hk',
        List.getElem?_eq_getElem hk', hm]⟩
  · intro hn
    rw [trace_wf f hwf hpl hn, List.getElem?_cons_succ, ← hlen, List.getElem?_append_right (Nat.le_refl _), Nat.sub_self]
    rfl
  · rw [trace_eq_ref, ref_wf f hwf hpl, ← hlen]
    refine (List.length_take_le' _ _).trans ?_
    rw [List.length_cons, List.length_append]
    exact Nat.le_refl _

/-- **The curve.**  `j` ticks into segment `i` (`1 ≤ j ≤ D_i`), i.e. on tick `n₀ + Σ_{l<i} D_l + j`, the
    message is the closed form of that segment; its value is `v_i + (v_{i+1} - v_i) · f(j / D_i)` (the second
    conjunct, by definition of `msgAt`). -/
theorem curve_closed_form (f : Rat → Rat) (pts : List Pt) (count n : Nat) {P : List Pt}
    (hP : P = eff count pts) (hwf : WF P) (i j : Nat) (hi : i + 1 < P.length) (h1 : 1 ≤ j)
    (h2 : j ≤ (pt P i).dur) (hn : off P i + j < n) :
    (trace f pts count n)[off P i + j]? = some (.msg (msgAt f (pt P i) (pt P (i + 1)) j)) ∧
    (msgAt f (pt P i) (pt P (i + 1)) j).value =
      (pt P i).value + ((pt P (i + 1)).value - (pt P i).value) * f ((j : Rat) / ((pt P i).dur : Rat)) := by
  subst hP
  cases j with
  | zero => cases h1
  | succ j =>
    have hget := allMsgs_get f _ i j hi h2
    rw [← Nat.add_assoc] at hn ⊢
    rw [trace_wf f hwf ⟨i, hi, Nat.ne_of_gt (Nat.lt_of_le_of_lt (Nat.zero_le j) h2)⟩ hn, List.getElem?_cons_succ,
      List.getElem?_append_left (List.getElem?_eq_some_iff.mp hget).1]
    exact ⟨hget, rfl⟩

/-- **The first tick.**  Tick `n₀` carries the first point that is played — the first one with a non-zero
    duration, `firstIdx P`; point 0 itself when its duration is not zero — exactly as it is (value,
    control and channel untouched: `firstMsg` copies them, which is all the second conjunct says). -/
theorem first_point_exact (f : Rat → Rat) (pts : List Pt) (count n : Nat) {P : List Pt}
    (hP : P = eff count pts) (hwf : WF P) (hpl : Playable P) (hn : 0 < n) :
    (trace f pts count n)[0]? = some (.msg (firstMsg (pt P (firstIdx P)))) ∧
    (firstMsg (pt P (firstIdx P))).value = (pt P (firstIdx P)).value ∧
    (∀ k, k < firstIdx P → (pt P k).dur = 0) ∧ (pt P (firstIdx P)).dur ≠ 0 ∧
    ((pt P 0).dur ≠ 0 → firstIdx P = 0) := by
  obtain ⟨hlt, _⟩ := dropZero_of_playable hpl
  subst hP
  exact ⟨trace_wf f hwf hpl hn, rfl, firstIdx_zero_dur _, firstIdx_dur _ (Nat.lt_of_succ_lt hlt),
    fun h0 => Nat.le_zero.mp (firstIdx_le _ 0 h0)⟩

/-- **Control points are hit exactly, on their own tick.**  If `f 1 = 1`, the end point of every segment
    of non-zero length is sent with exactly its value on tick `n₀ + Σ_{l≤i} D_l`. -/
theorem control_points_exact (f : Rat → Rat) (hf1 : f 1 = 1) (pts : List Pt) (count n : Nat) {P : List Pt}
    (hP : P = eff count pts) (hwf : WF P) (i : Nat) (hi : i + 1 < P.length) (hd : (pt P i).dur ≠ 0)
    (hn : off P (i + 1) < n) :
    ∃ m, (trace f pts count n)[off P (i + 1)]? = some (.msg m) ∧ m.value = (pt P (i + 1)).value ∧
      off P (i + 1) = off P i + (pt P i).dur := by
  rw [off_succ_eq P i (Nat.lt_of_succ_lt hi)] at hn ⊢
  obtain ⟨h, _⟩ := curve_closed_form f pts count n hP hwf i _ hi (Nat.pos_of_ne_zero hd) (Nat.le_refl _) hn
  refine ⟨_, h, ?_, rfl⟩
  simp only [msgAt, ratio_self hd, hf1, mul_one, add_sub_cancel]

/-- **Values stay inside the segment's hull.**  If `0 ≤ f x ≤ 1` on `[0, 1]` (`hf` is `Easing.unit`), every message the track
    ever sends — whatever the list of events — carries a value between the two end points of one of its
    segments (between two consecutive control points). -/
theorem within_segment_hull (f : Rat → Rat) (hf : ∀ x, 0 ≤ x → x ≤ 1 → 0 ≤ f x ∧ f x ≤ 1) (pts : List Pt)
    (count n : Nat) {P : List Pt} (hP : P = eff count pts) (k : Nat) (m : Msg)
    (h : (trace f pts count n)[k]? = some (.msg m)) :
    ∃ i, i + 1 < P.length ∧ min (pt P i).value (pt P (i + 1)).value ≤ m.value ∧
      m.value ≤ max (pt P i).value (pt P (i + 1)).value := by
  subst hP
  obtain ⟨i, hi, _, _, _, hm⟩ := ref_msgs f _ m (trace_mem h)
  refine ⟨i, hi, ?_⟩
  rcases hm with rfl | ⟨j, _, hj, rfl⟩
  · exact ⟨min_le_left _ _, le_max_left _ _⟩
  · exact msgAt_value_hull hf _ _ hj

/-- the same, tick by tick: the message `j` ticks into segment `i` lies between `v_i` and `v_{i+1}` -/
theorem within_segment_hull_at (f : Rat → Rat) (hf : ∀ x, 0 ≤ x → x ≤ 1 → 0 ≤ f x ∧ f x ≤ 1) (pts : List Pt)
    (count n : Nat) {P : List Pt} (hP : P = eff count pts) (hwf : WF P) (i j : Nat) (hi : i + 1 < P.length)
    (h1 : 1 ≤ j) (h2 : j ≤ (pt P i).dur) (hn : off P i + j < n) :
    ∃ m, (trace f pts count n)[off P i + j]? = some (.msg m) ∧
      min (pt P i).value (pt P (i + 1)).value ≤ m.value ∧ m.value ≤ max (pt P i).value (pt P (i + 1)).value := by
  obtain ⟨h, _⟩ := curve_closed_form f pts count n hP hwf i j hi h1 h2 hn
  exact ⟨_, h, msgAt_value_hull hf _ _ h2⟩

/-- **A zero-duration point is an instantaneous jump.**  Let point `i+1` have duration 0 between two
    segments of non-zero length.  It costs no tick (`off P (i+2) = off P (i+1)`); on its tick `T` the value
    is `v_{i+1}` (the end of segment `i`), and on tick `T + 1` the value is already one step into the
    curve that starts at `v_{i+2}`: nothing is interpolated between `v_{i+1}` and `v_{i+2}`. -/
theorem zero_duration_jump (f : Rat → Rat) (hf1 : f 1 = 1) (pts : List Pt) (count n : Nat) {P : List Pt}
    (hP : P = eff count pts) (hwf : WF P) (i : Nat) (hi : i + 3 < P.length) (hd0 : (pt P i).dur ≠ 0)
    (hz : (pt P (i + 1)).dur = 0) (hd2 : (pt P (i + 2)).dur ≠ 0) (hn : off P (i + 1) + 1 < n) :
    off P (i + 2) = off P (i + 1) ∧
    (∃ m, (trace f pts count n)[off P (i + 1)]? = some (.msg m) ∧ m.value = (pt P (i + 1)).value) ∧
    (trace f pts count n)[off P (i + 1) + 1]? = some (.msg (msgAt f (pt P (i + 2)) (pt P (i + 3)) 1)) ∧
    (msgAt f (pt P (i + 2)) (pt P (i + 3)) 1).value =
      (pt P (i + 2)).value + ((pt P (i + 3)).value - (pt P (i + 2)).value) * f ((1 : Nat) / ((pt P (i + 2)).dur : Rat)) := by
  have hi1 : i + 1 < P.length := Nat.lt_of_succ_lt (Nat.lt_of_succ_lt hi)
  have hoff : off P (i + 2) = off P (i + 1) := by rw [off_succ_eq P (i + 1) hi1, hz]; rfl
  obtain ⟨m, hm, hv, _⟩ := control_points_exact f hf1 pts count n hP hwf i hi1 hd0 (Nat.lt_of_succ_lt hn)
  obtain ⟨h, _⟩ := curve_closed_form f pts count n hP hwf (i + 2) 1 hi (Nat.le_refl _) (Nat.pos_of_ne_zero hd2)
    (hoff ▸ hn)
  exact ⟨hoff, ⟨m, hm, hv⟩, hoff ▸ h, rfl⟩

/-- a leading point of zero duration is dropped: the track behaves as if it were not there -/
theorem zero_duration_first_dropped (f : Rat → Rat) (z : Pt) (rest : List Pt) (n : Nat) (hz : z.dur = 0) :
    trace f (z :: rest) 0 n = trace f rest 0 n := by
  rw [trace_eq_ref, trace_eq_ref]
  show (ref f (z :: rest)).take n = _
  rw [ref, dropZero, if_pos hz]
  rfl

/-- **Non-numeric fields pass through.**  A control / channel field that is not a number is sent on every
    tick of the segment exactly as the segment's first point has it. -/
theorem non_numeric_passthrough (f : Rat → Rat) (pts : List Pt) (count n : Nat) {P : List Pt}
    (hP : P = eff count pts) (hwf : WF P) (i j : Nat) (hi : i + 1 < P.length) (h1 : 1 ≤ j)
    (h2 : j ≤ (pt P i).dur) (hn : off P i + j < n) :
    ∃ m, (trace f pts count n)[off P i + j]? = some (.msg m) ∧
      (∀ s, (pt P i).control = .opq s → m.control = .opq s) ∧
      (∀ s, (pt P i).channel = .opq s → m.channel = .opq s) := by
  obtain ⟨h, _⟩ := curve_closed_form f pts count n hP hwf i j hi h1 h2 hn
  refine ⟨_, h, ?_, ?_⟩ <;> intro s hs <;> simp only [msgAt, hs, fldAt]

/-- a numeric control number / channel that is the same at both ends of a segment is sent unchanged on
    every tick of it (the usual case: one control number and one channel for the whole track) -/
theorem constant_numeric_passthrough (f : Rat → Rat) (pts : List Pt) (count n : Nat) {P : List Pt}
    (hP : P = eff count pts) (hwf : WF P) (i j : Nat) (hi : i + 1 < P.length) (h1 : 1 ≤ j)
    (h2 : j ≤ (pt P i).dur) (hn : off P i + j < n) :
    ∃ m, (trace f pts count n)[off P i + j]? = some (.msg m) ∧
      (∀ c, (pt P i).control = .num c → (pt P (i + 1)).control = .num c → m.control = .num c) ∧
      (∀ c, (pt P i).channel = .num c → (pt P (i + 1)).channel = .num c → m.channel = .num c) := by
  obtain ⟨h, _⟩ := curve_closed_form f pts count n hP hwf i j hi h1 h2 hn
  refine ⟨_, h, ?_, ?_⟩ <;> intro c hc hc' <;> simp only [msgAt, hc, hc', fldAt, sub_self, zero_mul, add_zero]

/-- **Anything but control events is rejected** (first tick).  If one of the first two events that would
    be interpolated is not a control event, the first tick raises and nothing is ever sent. -/
theorem non_control_rejected (f : Rat → Rat) (pts : List Pt) (count n : Nat) {P : List Pt}
    (hP : P = eff count pts) (hpl : Playable P)
    (hk : (pt P (firstIdx P)).kind ≠ .control ∨ (pt P (firstIdx P + 1)).kind ≠ .control) :
    trace f pts count n = [Outcome.rejected].take n := by
  subst hP
  rw [trace_eq_ref, ref_of_cons f (dropZero_of_playable hpl).2, kindsOK_eq_false.mpr hk]
  rfl

/-- **… and later in the stream.**  If the events up to `a` are in the domain (and a segment was played)
    and the event `b` after `a` is not a control event, the track plays everything up to its arrival at
    `a` and raises on the very next tick: no message is ever computed from `b`. -/
theorem non_control_rejected_later (f : Rat → Rat) (pts : List Pt) (count n : Nat) {P pre rest : List Pt}
    {a b : Pt} (hP : P = eff count pts) (hsplit : P = pre ++ a :: b :: rest) (hwf : WF (pre ++ [a]))
    (hplay : ∃ i, i < pre.length ∧ (pt P i).dur ≠ 0) (hd : a.dur ≠ 0) (hb : b.kind ≠ .control) :
    trace f pts count n =
      (.msg (firstMsg (pt P (firstIdx P))) :: (allMsgs f (pre ++ [a]) ++ [.rejected])).take n ∧
    (allMsgs f (pre ++ [a])).length = off P pre.length := by
  constructor
  · rw [trace_eq_ref, ← hP, ref_split f hsplit hwf hplay, refFrom_cons₂, if_neg hd, kindsOK_eq_false.mpr (.inr hb)]
    rfl
  · rw [allMsgs_length, hsplit, List.length_append, List.length_singleton, Nat.add_sub_cancel,
      off_append_left (Nat.le_refl _), off_append_left (Nat.le_refl _)]

/-- **No message without two control events around it** (any list of events, no hypothesis): every
    message the track sends is the first played point or the closed form of a segment whose two ends are
    control events. -/
theorem messages_only_between_control_events (f : Rat → Rat) (pts : List Pt) (count n : Nat) {P : List Pt}
    (hP : P = eff count pts) (k : Nat) (m : Msg) (h : (trace f pts count n)[k]? = some (.msg m)) :
    ∃ i, i + 1 < P.length ∧ (pt P i).kind = .control ∧ (pt P (i + 1)).kind = .control ∧ (pt P i).dur ≠ 0 ∧
      (m = firstMsg (pt P i) ∨ ∃ j, 1 ≤ j ∧ j ≤ (pt P i).dur ∧ m = msgAt f (pt P i) (pt P (i + 1)) j) := by
  subst hP
  exact ref_msgs f _ m (trace_mem h)

/-- **`PInterpolate` on its own.**  Over the values `v₀, v₁, …` with a constant number of steps `D ≠ 0`
    (and `f 1 = 1`) the pattern yields `v₀`, then for each next value its step table
    `v_i + (v_{i+1} - v_i) · f((k+1)/D)`, `k < D`, and stops; with `D = 0` it yields `v₀` and stops. -/
theorem pinterpolate_closed_form (f : Rat → Rat) (hf1 : f 1 = 1) (v0 : Rat) (vs : List Rat) (D n : Nat) :
    (D ≠ 0 → PI.take f n (PI.start v0 vs D) = (v0 :: curve f D v0 vs).take n) ∧
    (D = 0 → PI.take f n (PI.start v0 vs D) = [v0].take n) :=
  ⟨fun hD => pi_take_general f hf1 n (PI.start v0 vs D) v0 hD (Nat.zero_le 1) rfl nofun,
    fun hD => by subst hD; match n with | 0 | 1 | _ + 2 => rfl⟩

/-! ## Non-vacuity: concrete instances, evaluated by the kernel -/
section Examples

def cc (s : String) (d : Nat) (v : Rat) : Pt := { kind := .control, dur := d, value := v, control := .opq s, channel := .num 3 }

/-- 0 → 8 in 4 ticks, a jump (zero duration) to 100, 100 → 104 in 2 ticks -/
def exPts : List Pt := [cc "cutoff" 4 0, cc "cutoff" 0 8, cc "cutoff" 2 100, cc "cutoff" 1 104]

def vals (os : List Outcome) : List (Option Rat) := os.map fun o => match o with | .msg m => some m.value | _ => none

theorem exWF : WF exPts :=
  ⟨by decide, fun i hi => match i, hi with
    | 0, _ | 1, _ | 2, _ => rfl
    | i + 3, h => absurd h (Nat.not_lt.mpr (Nat.le_add_left 4 i))⟩
theorem exPlayable : Playable exPts := ⟨0, by decide, by decide⟩
-- the hypotheses of the theorems are jointly satisfiable: instances on `exPts`
example := one_message_per_tick linear exPts 0 20 rfl exWF exPlayable
example := curve_closed_form linear exPts 0 20 rfl exWF 2 1 (by decide) (by decide) (by decide) (by decide)
example := first_point_exact linear exPts 0 20 rfl exWF exPlayable (by decide)
example := control_points_exact linear rfl exPts 0 20 rfl exWF 0 (by decide) (by decide) (by decide)
example := within_segment_hull_at linear linear_is_easing.unit exPts 0 20 rfl exWF 0 3 (by decide) (by decide)
  (by decide) (by decide)
example := zero_duration_jump linear rfl exPts 0 20 rfl exWF 0 (by decide) (by decide) (by decide) (by decide)
  (by decide)
example := non_numeric_passthrough linear exPts 0 20 rfl exWF 0 2 (by decide) (by decide) (by decide) (by decide)
example := constant_numeric_passthrough linear exPts 0 20 rfl exWF 0 2 (by decide) (by decide) (by decide) (by decide)
-- one message per tick on ticks 0..6, then `finished`; the jump point costs no tick and 100 itself is never sent
example : vals (trace linear exPts 0 20) = [some 0, some 2, some 4, some 6, some 8, some 102, some 104, none] := by
  decide +kernel
example : (trace linear exPts 0 20).getLast? = some .finished := by decide +kernel
example : off exPts 1 = 4 ∧ off exPts 2 = 4 ∧ off exPts 3 = 6 := by decide
-- count = 2 cuts the stream after the second event
example : vals (trace linear exPts 2 20) = [some 0, some 2, some 4, some 6, some 8, none] := by decide +kernel
-- the string-valued control name and the constant channel pass through
example : (trace linear exPts 0 2)[1]? = some (.msg { control := .opq "cutoff", value := 2, channel := .num 3 }) := by
  decide +kernel
-- a note event in the stream: rejected on the first tick / on the tick after the arrival at its predecessor
def note : Pt := { kind := .other, dur := 4, value := 0, control := .opq "-", channel := .opq "-" }
example : trace linear [note, cc "x" 1 1] 0 5 = [.rejected] := by decide +kernel
example : vals (trace linear [cc "x" 2 0, cc "x" 2 4, note, cc "x" 1 1] 0 9) = [some 0, some 2, some 4, none] ∧
    (trace linear [cc "x" 2 0, cc "x" 2 4, note, cc "x" 1 1] 0 9).getLast? = some .rejected := by decide +kernel
example := non_control_rejected linear [note, cc "x" 1 1] 0 5 rfl ⟨0, by decide, by decide⟩ (Or.inl (by decide))
theorem exWF2 : WF ([cc "x" 2 0] ++ [cc "x" 2 4]) :=
  ⟨by decide, fun i hi => match i, hi with
    | 0, _ => rfl
    | i + 1, h => absurd h (Nat.not_lt.mpr (Nat.le_add_left 2 i))⟩
example := non_control_rejected_later linear [cc "x" 2 0, cc "x" 2 4, note, cc "x" 1 1] 0 9 (pre := [cc "x" 2 0])
  (a := cc "x" 2 4) (b := note) (rest := [cc "x" 1 1]) rfl rfl exWF2 ⟨0, by decide, by decide⟩ (by decide) (by decide)
-- the hold easing: the value jumps on the last tick of the segment
example : vals (trace hold [cc "x" 3 0, cc "x" 1 6] 0 9) = [some 0, some 0, some 0, some 6, none] := by decide +kernel
-- PInterpolate over three values with 2 steps
example : PI.take linear 10 (PI.start 0 [4, 2] 2) = [0, 2, 4, 3, 2] := by decide +kernel
example : curve linear 2 0 [4, 2] = [2, 4, 3, 2] := by decide +kernel

end Examples

end IsobarV.C15
