/-
C15 (and C06's "a muted track emits no further events", for interpolated tracks): muting an interpolated
control track blanks messages, it does not shift the curve.  Property-level corollaries of
`Interp/Mute.lean` (`runMuted_eq_masked`) and of the curve theorems of `Props/C15.lean`.
This is the module the C15 check audits (`harness/props/c15.py`): importing it brings in all of C15's theorems.
-/
import IsobarV.Props.C15
import IsobarV.Interp.Mute

namespace IsobarV.C15
open IsobarV.Interp

/-- **Each control point is hit exactly on its own tick — also after the track was muted for a while**: for every
    pattern of mute flags, if the track is not muted on the tick of control point `i + 1`, the device receives
    exactly that point's value on exactly that tick `n₀ + Σ_{l≤i} D_l`. -/
theorem control_points_exact_when_unmuted (f : Rat → Rat) (hf1 : f 1 = 1) (pts : List Pt) (count : Nat) (ms : List Bool)
    {P : List Pt} (hP : P = eff count pts) (hwf : WF P) (i : Nat) (hi : i + 1 < P.length) (hd : (pt P i).dur ≠ 0)
    (hn : off P (i + 1) < ms.length) (hm : ms[off P (i + 1)]? = some false) :
    ∃ m, (runMuted f ms (Track.fresh pts count))[off P (i + 1)]? = some (.msg m) ∧ m.value = (pt P (i + 1)).value := by
  obtain ⟨m, h1, h2, _⟩ := control_points_exact f hf1 pts count ms.length hP hwf i hi hd hn
  exact ⟨m, unmuted_tick_hears_the_curve f ms _ _ hm _ h1, h2⟩

/-- **The curve's value at tick `t`, not a delayed one**: on any unmuted tick inside a segment the device receives the
    closed-form value `v_i + (v_{i+1} - v_i) · f(j / D)` of that tick — the same statement as `curve_closed_form`, for
    every pattern of mute flags. -/
theorem curve_closed_form_when_unmuted (f : Rat → Rat) (pts : List Pt) (count : Nat) (ms : List Bool) {P : List Pt}
    (hP : P = eff count pts) (hwf : WF P) (i j : Nat) (hi : i + 1 < P.length) (hj1 : 1 ≤ j) (hj : j ≤ (pt P i).dur)
    (hn : off P i + j < ms.length) (hm : ms[off P i + j]? = some false) :
    (runMuted f ms (Track.fresh pts count))[off P i + j]? = some (.msg (msgAt f (pt P i) (pt P (i + 1)) j)) :=
  unmuted_tick_hears_the_curve f ms _ _ hm _ (curve_closed_form f pts count ms.length hP hwf i j hi hj1 hj hn).1

/-- **Nothing while muted**, whatever the curve.  This is `Interp.muted_tick_is_silent` on a new track. -/
theorem muted_interpolated_track_is_silent (f : Rat → Rat) (pts : List Pt) (count : Nat) (ms : List Bool) (k : Nat)
    (hm : ms[k]? = some true) (h : Heard) (hk : (runMuted f ms (Track.fresh pts count))[k]? = some h) (x : Msg) :
    h ≠ .msg x :=
  muted_tick_is_silent f ms _ k hm h hk x

/-- the premises are satisfiable: the example curve of `Props/C15.lean`, muted on ticks 1..3 -/
example := control_points_exact_when_unmuted linear rfl exPts 0
  [false, true, true, true, false, false, false, false, false, false] rfl exWF 0 (by decide) (by decide) (by decide) (by decide)

end IsobarV.C15
