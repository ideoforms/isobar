/-
C09 — stickiness of StopIteration for the classes of `scalar.py`, `PDegree`, `PMidiNoteToFrequency`, `PTri`,
`PSaw`.  None of these classes ends by itself: each ends exactly when one of the attributes it resolves ends,
and it resolves the same attributes again at every later step (`poll_sticky`); `PChanged` / `PDiff` poll their
source (`delta_sticky`).
-/
import IsobarV.Pat.Cls.ScalarLemmas
import IsobarV.Props.C09

namespace IsobarV.C09
open IsobarV.Pat

/-- `PChanged` / `PDiff` end exactly when their source ends (also while loading `current`), and poll the source
    again at every later step. -/
theorem delta_sticky (g : Val → Val → Out) (c : Cls) (hc : clsStep c = stepDelta g) (hg : ∀ a b, g a b ≠ .stop) :
    ClsSticky c := by
  intro P rec kids st hrec hk
  rw [hc]
  refine ⟨(stepDelta_stepped g rec kids st).1.sticky hrec hk, fun hs => ?_⟩
  -- a step with `current` loaded ends only with the source
  have loaded : ∀ (kids : List Pat) (st : St), st.n0 ≠ 0 → (∀ k ∈ kids, P k) → (stepDelta g rec kids st).out = .stop →
      DeadAt rec (stepDelta g rec kids st).kids 0 := by
    intro kids st h0 hk hs
    rcases Out.val_or_noVal (stepKid rec kids 0).1 with ⟨x, hx⟩ | hn
    · rw [stepDelta_val h0 hx] at hs; exact absurd hs (hg _ _)
    · rw [stepDelta_fail hn] at hs ⊢; exact stepKid_stop_dead hrec hk hs
  have hd : DeadAt rec (stepDelta g rec kids st).kids 0 := by
    by_cases h0 : st.n0 = 0
    · rcases Out.val_or_noVal (stepKid rec kids 0).1 with ⟨x, hx⟩ | hn
      · rw [stepDelta_load h0 hx] at hs ⊢
        exact loaded _ _ (by decide : (1 : Int) ≠ 0) (stepKid_P hrec kids 0 hk) hs
      · rw [stepDelta_fail hn] at hs ⊢; exact stepKid_stop_dead hrec hk hs
    · exact loaded kids st h0 hk hs
  intro n
  apply clsOuts_noVal (stepDelta g) rec (fun kids _ => DeadAt rec kids 0) _ n _ _ hd
  intro kids st h
  rw [stepDelta_fail h.step.1]
  exact h.step

theorem changed_sticky : ClsSticky .changed := delta_sticky changedVal _ rfl fun _ _ => Out.noConfusion
theorem diff_sticky : ClsSticky .diff := delta_sticky diffVal _ rfl (fun _ _ => binopVal_ne_stop _ _ _)

theorem skipIf_sticky : ClsSticky .skipIf :=
  poll_sticky (fun _ => [0, 1]) (pure1 skipIfVal) _ rfl (fun _ vs => skipIfVal_ne_stop vs)
theorem normalise_sticky : ClsSticky .normalise := poll_sticky (fun _ => [0]) normF _ rfl normF_ne_stop
theorem map_sticky : ClsSticky .map := poll_sticky ordArgsFirst mapF _ rfl mapF_ne_stop
theorem mapEnumerated_sticky : ClsSticky .mapEnumerated := poll_sticky ordArgsFirst enumF _ rfl enumF_ne_stop
theorem scaleLinLin_sticky : ClsSticky .scaleLinLin :=
  poll_sticky ordArgsFirst (pure1 scaleLinLinVal) _ rfl (fun _ vs => scaleLinLinVal_ne_stop vs)
theorem scaleLinExp_sticky : ClsSticky .scaleLinExp :=
  poll_sticky ordArgsFirst (pure1 (scaleLinExpVal powApprox)) _ rfl (fun _ vs => scaleLinExpVal_ne_stop _ powApprox_ne_stop vs)
theorem round_sticky : ClsSticky .round :=
  poll_sticky ordArgsFirst (pure1 roundVal) _ rfl (fun _ vs => roundVal_ne_stop vs)
theorem scalar_cls_sticky : ClsSticky .scalar :=
  poll_sticky ordArgsFirst (pure1 scalarVal) _ rfl (fun _ vs => scalarVal_ne_stop vs)
theorem wrap_sticky : ClsSticky .wrap :=
  poll_sticky (fun _ => [0, 1, 2]) (pure1 wrapVal) _ rfl (fun _ vs => wrapVal_ne_stop vs)
theorem indexOf_sticky : ClsSticky .indexOf :=
  poll_sticky (fun _ => [0, 1]) (pure1 indexOfVal) _ rfl (fun _ vs => indexOfVal_ne_stop vs)
theorem degree_sticky : ClsSticky .degree :=
  poll_sticky (fun _ => [0, 1]) (pure1 degreeVal) _ rfl (fun _ vs => degreeVal_ne_stop vs)
theorem midi_sticky : ClsSticky .midiNoteToFrequency :=
  poll_sticky (fun _ => [0]) (pure1 (midiVal powApprox)) _ rfl (fun _ vs => midiVal_ne_stop _ powApprox_ne_stop vs)

-- `PTri` / `PSaw`: the phase computation never ends the pattern, so they end only with a pattern-valued parameter.
theorem tri_sticky : ClsSticky .tri := poll_sticky (fun _ => [0, 1, 2]) (oscF triShape) _ rfl (oscF_ne_stop _)
theorem saw_sticky : ClsSticky .saw := poll_sticky (fun _ => [0, 1, 2]) (oscF id) _ rfl (oscF_ne_stop _)

def ScalarSticky (c : Cls) : Prop :=
  c = .changed ∨ c = .diff ∨ c = .skipIf ∨ c = .normalise ∨ c = .map ∨ c = .mapEnumerated ∨ c = .scaleLinLin ∨
  c = .scaleLinExp ∨ c = .round ∨ c = .scalar ∨ c = .wrap ∨ c = .indexOf ∨ c = .degree ∨ c = .midiNoteToFrequency ∨
  c = .tri ∨ c = .saw

theorem scalar_sticky : ∀ c, ScalarSticky c ∨ StickyCore c → ClsSticky c := by
  intro c h
  rcases h with h | h
  · unfold ScalarSticky at h
    rcases h with h | h | h | h | h | h | h | h | h | h | h | h | h | h | h | h <;> subst h
    · exact changed_sticky
    · exact diff_sticky
    · exact skipIf_sticky
    · exact normalise_sticky
    · exact map_sticky
    · exact mapEnumerated_sticky
    · exact scaleLinLin_sticky
    · exact scaleLinExp_sticky
    · exact round_sticky
    · exact scalar_cls_sticky
    · exact wrap_sticky
    · exact indexOf_sticky
    · exact degree_sticky
    · exact midi_sticky
    · exact tri_sticky
    · exact saw_sticky
  · exact core_sticky c h

/-- **C09 for the scalar group**: in any expression built from these classes and the sticky core classes, nested
    to any depth, once `next()` has raised StopIteration no later `next()` yields a value. -/
theorem sticky_scalar (fuel : Nat) (p : Pat) (hp : AllCls (fun c => ScalarSticky c ∨ StickyCore c) p)
    (hstop : (stepF fuel p).out = .stop) : ∀ n, ∀ o ∈ outs fuel n (stepF fuel p).p, NoVal o :=
  (sticky_stepF scalar_sticky fuel p hp).2 hstop

/-! Non-vacuity: `PDiff` of a wrapped three-value sequence yields two values and then stays ended. -/
section Example
def sqv (xs : List Int) (rep : Int) : Pat := .node .seq (xs.map (fun i => Pat.const (.int i))) { n0 := rep }
def exD : Pat := .node .diff [.node .wrap [sqv [1, 14, 27] 1, Pat.const (.int 0), Pat.const (.int 10)] {}] {}
example : outs 10 6 exD = [.val (.int 3), .val (.int 3), .stop, .stop, .stop, .stop] := by decide +kernel
example : (nextn 10 5 exD).vals = [.int 3, .int 3] ∧ (len 10 100 exD).1 = some 2 := by decide +kernel
end Example

end IsobarV.C09
