/-
C12 — pattern-valued parameters are resolved afresh at every step.

In the model a plain scalar `x` and `PConstant(x)` are the same node (`Pat.const x`), so "passing the
scalar or a constant pattern of it is indistinguishable" holds by construction on the model side and is
decided on the real objects by the harness.  Theorems here: a reference is transparent; parameters of
the core classes are consumed exactly once per step, in order.  Per-class consumption lemmas for the
other classes live in `IsobarV/Props/C12_*.lean`.
-/
import IsobarV.Pat.Streams

namespace IsobarV.C12
open IsobarV.Pat

/-- **A reference is transparent**: `next(PRef(p))` is `next(p)`, and the reference then points to
    the advanced `p` — under any semantics of `p`, at every step. -/
theorem ref_transparent (rec : Rec) (p : Pat) (st : St) :
    (stepRef rec [p] st).out = (rec p).out ∧ (stepRef rec [p] st).kids = [(rec p).p] := by
  simp [stepRef, stepKid]

theorem ref_outs (rec : Rec) (n : Nat) (p : Pat) (st : St) :
    clsOuts stepRef rec n [p] st = recOuts rec n p := by
  induction n generalizing p with
  | zero => rfl
  | succ n ih =>
    obtain ⟨h1, h2⟩ := ref_transparent rec p st
    simp only [clsOuts, recOuts, h1, h2]
    have : (stepRef rec [p] st).st = st := rfl
    rw [this, ih]

/-- **Re-targeting a reference takes effect from the very next step**: after `set_pattern(q)` the next
    value is `q`'s next value, whatever the old target was or had produced. -/
theorem ref_retarget (rec : Rec) (old q : Pat) (st : St) :
    (stepRef rec ([old].set 0 q) st).out = (rec q).out := by
  simp [stepRef, stepKid]

/-- A constant yields its value for ever and is never advanced (so `P(x)` and `P(PConstant(x))`
    cannot differ by consumption). -/
theorem const_constant (rec : Rec) (v : Val) (n : Nat) :
    clsOuts stepConst rec n [] { v0 := v } = List.replicate n (.val v) :=
  clsOuts_fixed rfl n

/-- **Operands of an operator are consumed exactly once per output step**: after a step that produced a
    value, each operand is exactly one `rec`-step further (the order, `a` before `b`, is `C08.bin_step`). -/
theorem bin_consumes_once (f : Val → Val → Out) (rec : Rec) (a b : Pat) (st : St) (x y : Val)
    (ha : (rec a).out = .val x) (hb : (rec b).out = .val y) :
    (stepBin f rec [a, b] st).kids = [(rec a).p, (rec b).p] := by
  simp [stepBin, stepKid, ha, hb]

/-- **`PArrayIndex.index` is resolved once per step**, whatever the step then does with the list. -/
theorem arrayIndex_index_once (rec : Rec) (idx : Pat) (items : List Pat) (st : St) :
    ∃ rest, (stepArrayIndex rec (idx :: items) st).kids = (rec idx).p :: rest ∧ rest.length = items.length := by
  simp only [stepArrayIndex, stepKid, List.getElem?_cons_zero, List.set_cons_zero]
  split
  · exact ⟨items, rfl, rfl⟩
  · split
    · split
      · rename_i j _
        cases hj : ((rec idx).p :: items)[j + 1]? with
        | none => exact ⟨items, by simp, rfl⟩
        | some k => exact ⟨items.set j (rec k).p, by simp [List.set], by simp⟩
      · exact ⟨items, rfl, rfl⟩
    · exact ⟨items, rfl, rfl⟩
    · exact ⟨items, rfl, rfl⟩
  · exact ⟨items, rfl, rfl⟩

/-- `PSequence` items that are themselves patterns are resolved (one value per visit), in order. -/
theorem seq_item_resolved (rec : Rec) (kids : List Pat) (st : St) (k : Pat)
    (hg : ¬ (kids.length = 0 ∨ (0 ≤ st.n0 ∧ st.n0 ≤ st.n2))) (hk : kids[st.n1.toNat]? = some k) :
    (stepSeq rec kids st).out = (rec k).out ∧ (stepSeq rec kids st).kids = kids.set st.n1.toNat (rec k).p := by
  simp only [stepSeq, hg, if_false, stepKid, hk]
  cases (rec k).out <;> simp <;> split <;> simp

end IsobarV.C12
