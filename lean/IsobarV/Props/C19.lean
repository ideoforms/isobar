/-
C19 — output devices encode exactly what the track asked for.  The `example`s after a theorem show that its
hypotheses can be met, or what the model computes there.
-/
import IsobarV.IO.Lemmas

namespace IsobarV.C19
open IsobarV.IO

/-- For every valid message (note, velocity/value < 128, channel < 16, bend in −8192..8191) a receiver decodes
    the wire bytes back to the same kind, note, value and channel. -/
theorem midi_decode_encode (m : Msg) (h : m.Valid) : decode (encode m) = some m :=
  decode_encode m h

example : decode (encode (.bend (-8192) 15)) = some (.bend (-8192) 15) := by decide +kernel
example : (Msg.noteOn 127 127 15).Valid := by simp [Msg.Valid]

/-- Whatever request a `MidiOutputDevice` method accepts (ints or floats) is put on the wire as bytes that
    decode to the message built from the `int()` of its arguments. -/
theorem midi_port_exact (r : Req) (m : Msg) (h : resolve r = some m) :
    ∃ bytes, portSend r = some bytes ∧ decode bytes = some m :=
  ⟨encode m, congrArg (Option.map encode) h, decode_encode m (resolve_some h).2⟩

example : resolve (.noteOn (.flt 121 2) (.int 64) (.int 3)) = some (.noteOn 60 64 3) := by decide +kernel

/-- Nothing malformed is ever sent: bytes leave the port only for a valid message (otherwise `ValueError`). -/
theorem midi_port_sends_only_valid (r : Req) (bytes : List Nat) (h : portSend r = some bytes) :
    ∃ m, resolve r = some m ∧ m.Valid ∧ bytes = encode m :=
  have ⟨m, hr, e⟩ := Option.map_eq_some_iff.1 h
  ⟨m, hr, (resolve_some hr).2, e.symm⟩

example : portSend (.noteOn (.int 128) (.int 64) (.int 0)) = none := by decide +kernel
example : portSend (.noteOn (.int 60) (.int 64) (.int 0)) = some [144, 60, 64] := by decide +kernel

/-- note-on: note, velocity and channel (after `int()`) arrive unchanged. -/
theorem note_on_wire (n v c : Num) (hn : 0 ≤ n.trunc ∧ n.trunc ≤ 127) (hv : 0 ≤ v.trunc ∧ v.trunc ≤ 127)
    (hc : 0 ≤ c.trunc ∧ c.trunc ≤ 15) :
    (portSend (.noteOn n v c)).bind decode = some (.noteOn n.trunc.toNat v.trunc.toNat c.trunc.toNat) := by
  rw [port_roundtrip, resolve, data7_some hn, data7_some hv, chan4_some hc]

example : (portSend (.noteOn (.int 0) (.int 127) (.int 15))).bind decode = some (.noteOn 0 127 15) := by decide +kernel

/-- note-off: note and channel arrive unchanged (release velocity is mido's default 64). -/
theorem note_off_wire (n c : Num) (hn : 0 ≤ n.trunc ∧ n.trunc ≤ 127) (hc : 0 ≤ c.trunc ∧ c.trunc ≤ 15) :
    (portSend (.noteOff n c)).bind decode = some (.noteOff n.trunc.toNat 64 c.trunc.toNat) := by
  rw [port_roundtrip, resolve, data7_some hn, chan4_some hc]

example : (portSend (.noteOff (.int 127) (.int 9))).bind decode = some (.noteOff 127 64 9) := by decide +kernel

/-- control change: controller, value and channel arrive unchanged. -/
theorem control_wire (k v c : Num) (hk : 0 ≤ k.trunc ∧ k.trunc ≤ 127) (hv : 0 ≤ v.trunc ∧ v.trunc ≤ 127)
    (hc : 0 ≤ c.trunc ∧ c.trunc ≤ 15) :
    (portSend (.control k v c)).bind decode = some (.control k.trunc.toNat v.trunc.toNat c.trunc.toNat) := by
  rw [port_roundtrip, resolve, data7_some hk, data7_some hv, chan4_some hc]

example : (portSend (.control (.int 74) (.flt 255 2) (.int 1))).bind decode = some (.control 74 127 1) := by decide +kernel

/-- program change: program and channel arrive unchanged. -/
theorem program_change_wire (p c : Num) (hp : 0 ≤ p.trunc ∧ p.trunc ≤ 127) (hc : 0 ≤ c.trunc ∧ c.trunc ≤ 15) :
    (portSend (.program p c)).bind decode = some (.program p.trunc.toNat c.trunc.toNat) := by
  rw [port_roundtrip, resolve, data7_some hp, chan4_some hc]

example : (portSend (.program (.int 5) (.int 2))).bind decode = some (.program 5 2) := by decide +kernel

/-- pitch bend: the signed 14-bit value and the channel arrive unchanged. -/
theorem pitch_bend_wire (p c : Num) (hp : -8192 ≤ p.trunc ∧ p.trunc ≤ 8191) (hc : 0 ≤ c.trunc ∧ c.trunc ≤ 15) :
    (portSend (.bend p c)).bind decode = some (.bend p.trunc c.trunc.toNat) := by
  rw [port_roundtrip, resolve, pitch14_some hp, chan4_some hc]

example : (portSend (.bend (.int (-1)) (.int 15))).bind decode = some (.bend (-1) 15) := by decide +kernel
example : portSend (.bend (.int 8191) (.int 0)) = some [224, 127, 127] := by decide +kernel

/-- Python `int()` on the arguments: ints pass unchanged; a float `num/den` becomes the unique integer `t` of the
    same sign with `|t| ≤ |num/den| < |t| + 1` (truncation toward zero). -/
theorem int_truncation (num : Int) (den : Nat) (hd : 0 < den) (i : Int) :
    (Num.int i).trunc = i
    ∧ (Num.flt num den).trunc.natAbs * den ≤ num.natAbs
    ∧ num.natAbs < ((Num.flt num den).trunc.natAbs + 1) * den
    ∧ (0 ≤ num → 0 ≤ (Num.flt num den).trunc) ∧ (num ≤ 0 → (Num.flt num den).trunc ≤ 0) := by
  have e : (Num.flt num den).trunc.natAbs = num.natAbs / den := Int.natAbs_tdiv num den
  refine ⟨rfl, ?_, ?_, fun h => Int.tdiv_nonneg h (Int.natCast_nonneg den), fun h => ?_⟩
  · rw [e]; exact Nat.div_mul_le_self _ _
  · rw [e, Nat.mul_comm]; exact Nat.lt_mul_div_succ _ hd
  · have := Int.tdiv_nonneg (Int.neg_nonneg_of_nonpos h) (Int.natCast_nonneg den)
    rw [Int.neg_tdiv] at this
    exact Int.nonpos_of_neg_nonneg this

example : (Num.flt 121 2).trunc = 60 ∧ (Num.flt (-121) 2).trunc = -60 ∧ (Num.flt (-1) 2).trunc = 0 := by decide +kernel

/-- After ANY history of `tick()` / `note_on` / `note_off` calls, the saved track holds exactly the accepted
    requests, in order, each at the absolute tick at which it was made (sum of the delta times = number of
    ticks before the call) with the requested note, velocity and channel, followed by the dummy note-off at
    the final tick. -/
theorem midifile_messages_exact (ops : List FileOp) :
    absolutise 0 (FileDev.run {} ops).written = requestLog 0 ops ++ [(ticksIn ops, .noteOff 0 64 0)] :=
  (written_log {} ⟨Nat.le_refl _, rfl⟩ ops).trans (by rw [show ({} : FileDev).now = 0 from rfl, Nat.zero_add]; rfl)

example : absolutise 0 (FileDev.run {} [.tick, .tick, .noteOn (.int 60) (.flt 129 2) (.int 1), .tick,
      .noteOn (.int 200) (.int 1) (.int 1), .noteOff (.int 60) (.int 1), .tick]).written
    = [(2, .noteOn 60 64 1), (3, .noteOff 60 64 1), (4, .noteOff 0 64 0)] := by decide +kernel

/-- A receiver that parses the datagram of an accepted message gets back the address and every argument:
    ints as int32 (or int64 beyond 31 bits), strings byte for byte, booleans, floats as the float32 bit pattern
    `f32` produced (for ALL addresses and argument lists without an embedded NUL). -/
theorem osc_parse_encode (f32 : Nat → Nat) (addr : List Nat) (args : List OArg) (dg : List Nat)
    (haddr : ∀ b ∈ addr, b ≠ 0) (hok : ∀ a ∈ args, a.Ok f32) (h : encodeOSC f32 addr args = some dg) :
    parseOSC dg = some { addr := addr, args := args.map (OArg.parsed f32) } :=
  parseOSC_encodeOSC f32 addr args dg haddr hok h

example : encodeOSC (fun _ => 1075838976) [47, 120] [.int 1, .float 4612811918334230528, .str [97], .bool true, .int (-2147483648)]
    = some [47, 120, 0, 0, 44, 105, 102, 115, 84, 104, 0, 0, 0, 0, 0, 1, 64, 32, 0, 0, 97, 0, 0, 0,
            255, 255, 255, 255, 128, 0, 0, 0] := by decide +kernel

/-- Encoding succeeds for every non-empty address when the ints fit in 64 bits (python-osc's `BuildError`
    otherwise). -/
theorem osc_encode_succeeds (f32 : Nat → Nat) (addr : List Nat) (args : List OArg) (haddr : addr ≠ [])
    (hint : ∀ i, OArg.int i ∈ args → fitsI64 i = true) : ∃ dg, encodeOSC f32 addr args = some dg := by
  obtain ⟨ds, hds⟩ := encArgs_some f32 args hint
  exact ⟨_, by rw [encodeOSC, if_neg haddr, hds]⟩

example : encodeOSC id [] [] = none := by decide +kernel

/-- `OSCOutputDevice.note_on(note, velocity, channel)` is received as `/note [note, velocity, channel]`. -/
theorem osc_note_form (f32 : Nat → Nat) (note vel ch : OArg) (hn : note.Ok f32) (hv : vel.Ok f32) (hc : ch.Ok f32)
    (dg : List Nat) (h : (oscNoteOn note vel ch).dgram f32 = some dg) :
    parseOSC dg = some { addr := addrNote, args := [note.parsed f32, vel.parsed f32, ch.parsed f32] } :=
  parseOSC_three f32 addrNote note vel ch dg (by decide) hn hv hc h

example : ((oscNoteOn (.int 60) (.int 64) (.int 3)).dgram id).bind parseOSC
    = some { addr := addrNote, args := [.i32 60, .i32 64, .i32 3] } := by decide +kernel

/-- `OSCOutputDevice.note_off(note, channel)` is received as `/note [note, 0, channel]`. -/
theorem osc_note_off_form (f32 : Nat → Nat) (note ch : OArg) (hn : note.Ok f32) (hc : ch.Ok f32)
    (dg : List Nat) (h : (oscNoteOff note ch).dgram f32 = some dg) :
    parseOSC dg = some { addr := addrNote, args := [note.parsed f32, .i32 0, ch.parsed f32] } :=
  parseOSC_three f32 addrNote note (.int 0) ch dg (by decide) hn trivial hc h

example : ((oscNoteOff (.int 60) (.int 3)).dgram id).bind parseOSC
    = some { addr := addrNote, args := [.i32 60, .i32 0, .i32 3] } := by decide +kernel

/-- `OSCOutputDevice.control(control, value, channel)` is received as `/control [control, value, channel]`. -/
theorem osc_control_form (f32 : Nat → Nat) (cc val ch : OArg) (hk : cc.Ok f32) (hv : val.Ok f32) (hc : ch.Ok f32)
    (dg : List Nat) (h : (oscControl cc val ch).dgram f32 = some dg) :
    parseOSC dg = some { addr := addrControl, args := [cc.parsed f32, val.parsed f32, ch.parsed f32] } :=
  parseOSC_three f32 addrControl cc val ch dg (by decide) hk hv hc h

example : ((oscControl (.int 7) (.int 100) (.int 0)).dgram id).bind parseOSC
    = some { addr := addrControl, args := [.i32 7, .i32 100, .i32 0] } := by decide +kernel

/-- After ANY history of calls, two different held keys sit on two different channels, each a member channel
    1..15 (never the master channel 0), and the allocator records that channel as theirs. -/
theorem distinct_notes_distinct_channels (ops : List MpeOp) (n₁ n₂ i₁ i₂ : Nat)
    (h₁ : (MPE.init.run ops).notes n₁ = .held i₁) (h₂ : (MPE.init.run ops).notes n₂ = .held i₂) (hne : n₁ ≠ n₂) :
    (MPE.init.run ops).objCh i₁ ≠ (MPE.init.run ops).objCh i₂
    ∧ 1 ≤ (MPE.init.run ops).objCh i₁ ∧ (MPE.init.run ops).objCh i₁ ≤ 15
    ∧ (MPE.init.run ops).chans ((MPE.init.run ops).objCh i₁) = some i₁ := by
  have hI := Inv.init.run ops
  have c1 := hI.held_chan n₁ i₁ h₁
  have c2 := hI.held_chan n₂ i₂ h₂
  have hm := mem_mpeChannels.1 (hI.chan_mem _ _ c1)
  refine ⟨fun e => hne ?_, hm.1, hm.2, c1⟩
  -- one channel, one object, one key
  rw [e, c2] at c1
  cases c1
  exact (hI.held_note n₁ _ h₁).symm.trans (hI.held_note n₂ _ h₂)

example : (MPE.init.run [.on 60 64, .on 61 64, .off 60, .on 62 64]).notes 61 = .held 1
    ∧ (MPE.init.run [.on 60 64, .on 61 64, .off 60, .on 62 64]).notes 62 = .held 2
    ∧ (MPE.init.run [.on 60 64, .on 61 64, .off 60, .on 62 64]).objCh 1 = 2
    ∧ (MPE.init.run [.on 60 64, .on 61 64, .off 60, .on 62 64]).objCh 2 = 1 := by decide +kernel

/-- After any history that never presses a key that is still held, a channel is free exactly when no held key
    owns it.  (The direction "a held key's channel is not free" does not need the hypothesis: the channel's entry
    is the key's object, `Inv.held_chan`.) -/
theorem channel_free_iff_unheld (ops : List MpeOp) (hnr : noRetrigger MPE.init ops) (c : Nat) :
    (MPE.init.run ops).chans c = none
      ↔ ∀ n i, (MPE.init.run ops).notes n = .held i → (MPE.init.run ops).objCh i ≠ c := by
  have hI := Inv.init.run ops
  have hR := RInv.init.run Inv.init ops hnr
  constructor
  · intro h n i hh e
    have := hI.held_chan n i hh
    rw [e, h] at this
    cases this
  · intro h
    cases hc : (MPE.init.run ops).chans c with
    | none => rfl
    | some i => exact absurd (hI.chan_ch c i hc) (h _ i (hR c i hc))

example : noRetrigger MPE.init [.on 60 64, .on 61 64, .off 60] :=
  ⟨fun _ _ h => by cases h; rfl, fun _ _ h => by cases h; decide +kernel, nofun, trivial⟩
example : (MPE.init.run [.on 60 64, .on 61 64, .off 60]).chans 1 = none
    ∧ (MPE.init.run [.on 60 64, .on 61 64, .off 60]).chans 2 = some 1 := by decide +kernel

/-- For every history with notes and velocities in 0..127 (re-triggering allowed), the allocator's table is the
    receiver's view: a channel is free exactly when no note is sounding on it on the wire, and an occupied
    channel carries exactly the note that sounds there. -/
theorem channel_free_iff_silent (ops : List MpeOp) (hd : ∀ op ∈ ops, op.InDomain) (c : Nat) :
    ((MPE.init.run ops).chans c = none ↔ soundingOn c (MPE.init.wire ops) = none)
    ∧ ∀ i, (MPE.init.run ops).chans c = some i → soundingOn c (MPE.init.wire ops) = some ((MPE.init.run ops).objNote i) := by
  rw [wire_view ops hd c]
  cases (MPE.init.run ops).chans c with
  | none => exact ⟨⟨fun _ => rfl, fun _ => rfl⟩, nofun⟩
  | some j => exact ⟨⟨nofun, nofun⟩, fun i hi => by cases hi; rfl⟩

example : soundingOn 1 (MPE.init.wire [.on 60 64, .on 61 64, .off 60]) = none
    ∧ soundingOn 2 (MPE.init.wire [.on 60 64, .on 61 64, .off 60]) = some 61 := by decide +kernel

/-- Whenever fewer than 15 member channels are sounding on the wire, the next `note_on` (note, velocity in
    0..127) returns an `MPENote` on a member channel that was silent, and puts exactly that note-on on the wire.
    The count is of what a receiver hears, not of held keys (that form is the next theorem), so re-pressed keys
    are allowed. -/
theorem note_on_succeeds_if_fewer_than_15_held (ops : List MpeOp) (hd : ∀ op ∈ ops, op.InDomain) (n v : Nat)
    (hn : n < 128) (hv : v < 128) (h : soundingCount (MPE.init.wire ops) < 15) :
    ∃ c, ((MPE.init.run ops).step (.on n v)).res = .note (MPE.init.run ops).nextId c
      ∧ 1 ≤ c ∧ c ≤ 15 ∧ soundingOn c (MPE.init.wire ops) = none
      ∧ ((MPE.init.run ops).step (.on n v)).wire = [.noteOn n v c] := by
  have hW := wire_view ops hd
  rw [soundingCount_eq_occupied hW] at h
  obtain ⟨c, hc, e⟩ := noteOn_of_occupied_lt hn hv h
  have hm := nextChannel_some hc
  rw [e]
  exact ⟨c, rfl, (mem_mpeChannels.1 hm.1).1, (mem_mpeChannels.1 hm.1).2, by rw [hW c, hm.2]; rfl, rfl⟩

example : soundingCount (MPE.init.wire [.on 60 64, .on 61 64, .off 60]) = 1 := by decide +kernel

/-- The same in terms of held keys: in a history that never re-presses a held key, fewer than 15 held keys
    means the next `note_on` succeeds. -/
theorem note_on_succeeds_if_fewer_than_15_keys_held (ops : List MpeOp) (hd : ∀ op ∈ ops, op.InDomain)
    (hnr : noRetrigger MPE.init ops) (n v : Nat) (hn : n < 128) (hv : v < 128)
    (h : (MPE.init.run ops).heldCount < 15) :
    ∃ c, ((MPE.init.run ops).step (.on n v)).res = .note (MPE.init.run ops).nextId c
      ∧ ((MPE.init.run ops).step (.on n v)).wire = [.noteOn n v c] := by
  rw [← show _ = _ from CInv.init.run Inv.init DInv.init ops hd hnr] at h
  obtain ⟨c, _, e⟩ := noteOn_of_occupied_lt hn hv h
  rw [e]
  exact ⟨c, rfl, rfl⟩

example : (MPE.init.run [.on 60 64, .on 61 64, .off 60]).heldCount = 1 := by decide +kernel

/-- `note_on` returns `None` exactly when all 15 member channels are sounding on the wire. -/
theorem note_on_refused_only_when_all_15_sound (ops : List MpeOp) (hd : ∀ op ∈ ops, op.InDomain) (n v : Nat) :
    ((MPE.init.run ops).step (.on n v)).res = .noChannel
      ↔ soundingCount (MPE.init.wire ops) = 15 := by
  rw [soundingCount_eq_occupied (wire_view ops hd), ← nextChannel_eq_none]
  exact noteOn_noChannel

example : ((MPE.init.run ((List.range 15).map (fun k => MpeOp.on (60 + k) 64))).step (.on 90 64)).res = .noChannel := by
  decide +kernel

/-- Channels are recycled: after ANY in-domain history that leaves a channel free, ANY number of further notes
    can be played one after the other; each goes out (note-on, then note-off) on the same lowest free channel
    `c`, and the channel table is afterwards what it was. -/
theorem channels_recycled (ops : List MpeOp) (hd : ∀ op ∈ ops, op.InDomain) (c : Nat)
    (hc : (MPE.init.run ops).nextChannel = some c) (ns : List (Nat × Nat)) (hns : ∀ p ∈ ns, p.1 < 128 ∧ p.2 < 128) :
    (MPE.init.run ops).wire (playSuccessively ns) = successiveWire c ns
    ∧ ((MPE.init.run ops).run (playSuccessively ns)).chans = (MPE.init.run ops).chans :=
  successive_wire (Inv.init.run ops) (DInv.init.run ops hd) hc ns hns

/-- In particular, from a fresh device any number of successive notes all sound on channel 1. -/
theorem any_number_of_successive_notes (ns : List (Nat × Nat)) (hns : ∀ p ∈ ns, p.1 < 128 ∧ p.2 < 128) :
    MPE.init.wire (playSuccessively ns) = successiveWire 1 ns :=
  (channels_recycled [] nofun 1 rfl ns hns).1

example : MPE.init.wire (playSuccessively ((List.range 40).map (fun k => (60 + k, 100))))
    = successiveWire 1 ((List.range 40).map (fun k => (60 + k, 100))) := by decide +kernel

/-- `MPENote` expression: while a note is down (in-domain history), its pitch bend goes out on the note's own
    channel — the channel on which the receiver hears exactly that note. -/
theorem expression_reaches_own_note (ops : List MpeOp) (hd : ∀ op ∈ ops, op.InDomain) (id : Nat) (p : Int)
    (hp : -8192 ≤ p ∧ p ≤ 8191) (hdown : (MPE.init.run ops).down id = true) :
    ((MPE.init.run ops).step (.objBend id p)).wire = [.bend p ((MPE.init.run ops).objCh id)]
    ∧ soundingOn ((MPE.init.run ops).objCh id) (MPE.init.wire ops) = some ((MPE.init.run ops).objNote id) := by
  have hI := Inv.init.run ops
  have hch := hI.down_chan id hdown
  constructor
  · rw [MPE.step, MPE.objSend, if_pos hdown, resolve, pitch14_some (i := (Num.int p).trunc) hp,
      chan4_member (hI.chan_mem _ _ hch)]
    rfl
  · exact (channel_free_iff_silent ops hd _).2 id hch

example : (MPE.init.run [.on 60 64, .on 61 64]).down 1 = true
    ∧ ((MPE.init.run [.on 60 64, .on 61 64]).step (.objBend 1 100)).wire = [.bend 100 2] := by decide +kernel

/-- Releasing a held key (any reachable in-domain state) sends its note-off on the key's own channel and frees
    exactly that channel; a pitch bend of the released `MPENote` right afterwards sends nothing. -/
theorem note_off_frees_own_channel (ops : List MpeOp) (hd : ∀ op ∈ ops, op.InDomain) (n i : Nat)
    (hh : (MPE.init.run ops).notes n = .held i) (p : Int) :
    ((MPE.init.run ops).step (.off n)).wire = [.noteOff n 64 ((MPE.init.run ops).objCh i)]
    ∧ ((MPE.init.run ops).step (.off n)).st.chans ((MPE.init.run ops).objCh i) = none
    ∧ (∀ c, c ≠ (MPE.init.run ops).objCh i →
        ((MPE.init.run ops).step (.off n)).st.chans c = (MPE.init.run ops).chans c)
    ∧ (((MPE.init.run ops).step (.off n)).st.step (.objBend i p)).wire = [] := by
  rw [MPE.step, noteOff_held (Inv.init.run ops) (DInv.init.run ops hd) hh]
  refine ⟨rfl, upd_same .., fun c hc => upd_other _ _ _ _ hc, ?_⟩
  rw [MPE.step, MPE.objSend, if_neg]
  exact ne_true_of_eq_false (upd_same ..)

example : ((MPE.init.run [.on 60 64, .on 61 64]).step (.off 61)).wire = [.noteOff 61 64 2] := by decide +kernel

end IsobarV.C19
