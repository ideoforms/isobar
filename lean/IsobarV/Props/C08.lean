/-
C08 — arithmetic and comparison operators apply element-wise.

All statements hold for an ARBITRARY semantics `rec` of the operand patterns (hence for operands of any
class and any nesting depth), any operand states, and any number of steps.
-/
import IsobarV.Pat.Lemmas

namespace IsobarV.C08
open IsobarV.Pat

/-- One step of a binary operator: take a value from `a`; only if that succeeds take one from `b`;
    apply `f`.  If `a` ends (or raises) `b` is not consumed; if `b` ends, `a`'s value is lost. -/
theorem bin_step (f : Val → Val → Out) (rec : Rec) (a b : Pat) (st : St) :
    stepBin f rec [a, b] st =
      (match (rec a).out with
       | .val x =>
         (match (rec b).out with
          | .val y => { out := f x y, kids := [(rec a).p, (rec b).p], st := st }
          | o => { out := o, kids := [(rec a).p, (rec b).p], st := st })
       | o => { out := o, kids := [(rec a).p, b], st := st }) := by
  simp only [stepBin, stepKid, List.getElem?_cons_zero, List.set_cons_zero]
  cases h : (rec a).out <;> simp [List.set]
  cases h2 : (rec b).out <;> simp

/-- **Element-wise.**  While both operands yield values, the `i`-th output of the operator pattern is
    `f` applied to the `i`-th outputs of the operands — for every `n`. -/
theorem bin_elementwise (f : Val → Val → Out) (rec : Rec) (n : Nat) (a b : Pat) (st : St) (as bs : List Val)
    (ha : recOuts rec n a = as.map Out.val) (hb : recOuts rec n b = bs.map Out.val) :
    clsOuts (stepBin f) rec n [a, b] st = List.zipWith f as bs := by
  induction n generalizing a b as bs with
  | zero => cases as <;> cases bs <;> simp_all [recOuts, clsOuts]
  | succ n ih =>
    cases as with
    | nil => simp [recOuts] at ha
    | cons x as =>
      cases bs with
      | nil => simp [recOuts] at hb
      | cons y bs =>
        simp only [recOuts, List.map_cons, List.cons.injEq] at ha hb
        simp only [clsOuts, bin_step, ha.1, hb.1, List.zipWith_cons_cons]
        rw [ih _ _ as bs ha.2 hb.2]

/-- **The result ends as soon as either operand ends** (first operand): if `a` is exhausted the operator
    pattern yields StopIteration and has not consumed `b`'s next value. -/
theorem ends_with_first (f : Val → Val → Out) (rec : Rec) (a b : Pat) (st : St) (h : (rec a).out = .stop) :
    (stepBin f rec [a, b] st).out = .stop ∧ (stepBin f rec [a, b] st).kids = [(rec a).p, b] := by
  simp [bin_step, h]

theorem ends_with_second (f : Val → Val → Out) (rec : Rec) (a b : Pat) (st : St) (x : Val)
    (ha : (rec a).out = .val x) (hb : (rec b).out = .stop) :
    (stepBin f rec [a, b] st).out = .stop ∧ (stepBin f rec [a, b] st).kids = [(rec a).p, (rec b).p] := by
  simp [bin_step, ha, hb]

/-- An exception raised by an operand propagates unchanged. -/
theorem operand_error_propagates (f : Val → Val → Out) (rec : Rec) (a b : Pat) (st : St) (e : Err)
    (h : (rec a).out = .err e) : (stepBin f rec [a, b] st).out = .err e := by
  simp [bin_step, h]

/-- **A rest in either operand gives a rest**, for every arithmetic / comparison operator. -/
theorem none_propagates (op : BinOp) (v : Val) :
    binopVal op Val.none v = .val Val.none ∧ binopVal op v Val.none = .val Val.none := by
  constructor
  · simp [binopVal, Val.none]
  · cases v with
    | a x => cases x <;> simp [binopVal, Val.none]
    | tup xs => simp [binopVal, Val.none]

/-- **`&` yields whether both operands' values are truthy** (a rest is falsy; no None propagation). -/
theorem and_truthy (a b : Val) : andVal a b = .val (.a (.bool (a.truthy && b.truthy))) := rfl

/-- The operators are the Python operators on ints (unbounded): `//` and `%` floor towards −∞,
    comparisons give bools. -/
theorem int_ops (i j : Int) :
    binopVal .add (.int i) (.int j) = .val (.int (i + j)) ∧
    binopVal .sub (.int i) (.int j) = .val (.int (i - j)) ∧
    binopVal .mul (.int i) (.int j) = .val (.int (i * j)) ∧
    (j ≠ 0 → binopVal .floorDiv (.int i) (.int j) = .val (.int (Int.fdiv i j))) ∧
    (j ≠ 0 → binopVal .mod (.int i) (.int j) = .val (.int (Int.fmod i j))) ∧
    binopVal .lt (.int i) (.int j) = .val (.bool (decide (i < j))) ∧
    binopVal .eq (.int i) (.int j) = .val (.bool (i == j)) := by
  simp only [binopVal, Val.int, Val.bool, binopAtom, Atom.toInt?, binopInt, cmpInt]
  refine ⟨trivial, trivial, trivial, ?_, ?_, trivial, trivial⟩ <;> intro h <;> simp [h]

/-- Division by zero raises ZeroDivisionError for `/`, `//` and `%`. -/
theorem zero_division (i : Int) :
    binopVal .div (.int i) (.int 0) = .err .zeroDivision ∧
    binopVal .floorDiv (.int i) (.int 0) = .err .zeroDivision ∧
    binopVal .mod (.int i) (.int 0) = .err .zeroDivision := by
  simp [binopVal, binopAtom, Atom.toInt?, binopInt]

/-- A whole operator node under the real recursive semantics (shown for `+`): `next()` of `a + b` at any fuel. -/
theorem node_step (fuel : Nat) (a b : Pat) (st : St) :
    (stepF (fuel + 1) (.node .add [a, b] st)).out =
      (match (stepF fuel a).out with
       | .val x => (match (stepF fuel b).out with | .val y => binopVal .add x y | o => o)
       | o => o) := by
  simp only [stepF, clsStep, clsStepCore, bin_step]
  cases (stepF fuel a).out <;> simp
  cases (stepF fuel b).out <;> simp

/-! Non-vacuity -/
section Examples
def sq (xs : List Int) (rep : Int) : Pat := .node .seq (xs.map (fun i => Pat.const (.int i))) { n0 := rep }
-- (1 2 3)×1 − (10 20)×∞ : ends with the shorter operand; subtraction is not commutative
example : outs 10 5 (.node .sub [sq [1, 2, 3] 1, sq [10, 20] (-1)] {}) =
    [.val (.int (-9)), .val (.int (-18)), .val (.int (-7)), .stop, .stop] := by decide
example : outs 10 2 (.node .floorDiv [sq [-7] (-1), sq [2, 0] (-1)] {}) = [.val (.int (-4)), .err .zeroDivision] := by decide
end Examples

end IsobarV.C08
