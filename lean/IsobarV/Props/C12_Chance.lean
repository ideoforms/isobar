/-
C12 for the stochastic classes: pattern-valued parameters are resolved afresh at every step, exactly
once per use, in the order of the code — per output step for the classes of the form `stepPure idx core`,
per block for the block-wise ones (PRandomImpulseSequence, PShuffleInput).
-/
import IsobarV.Pat.Cls.ChanceLemmas

namespace IsobarV.C12
open IsobarV.Pat

theorem resolve2 (rec : Rec) (a b : Pat) (x y : Val) (ha : (rec a).out = .val x) (hb : (rec b).out = .val y) :
    resolve rec [0, 1] [a, b] = { vals := [x, y], bad := Option.none, kids := [(rec a).p, (rec b).p] } := by
  simp only [resolve, stepKid_zero, stepKid_succ, ha, hb]

theorem resolve3 (rec : Rec) (a b c : Pat) (x y z : Val) (ha : (rec a).out = .val x) (hb : (rec b).out = .val y)
    (hc : (rec c).out = .val z) :
    resolve rec [0, 1, 2] [a, b, c] = { vals := [x, y, z], bad := Option.none, kids := [(rec a).p, (rec b).p, (rec c).p] } := by
  simp only [resolve, stepKid_zero, stepKid_succ, ha, hb, hc]

/-- **Parameters of a stochastic class are consumed exactly once per output step, in order, and the
    step computes on exactly the values consumed** (PCoin.probability/regular, PChoice.values/weights,
    PSkip.play, PFlipFlop.p_on/p_off, PRandomExponential.min/max). -/
theorem pure2_consumes_once (core : List Val → St → Out × St) (rec : Rec) (a b : Pat) (st : St) (x y : Val)
    (ha : (rec a).out = .val x) (hb : (rec b).out = .val y) :
    (stepPure [0, 1] core rec [a, b] st).kids = [(rec a).p, (rec b).p] ∧
    (stepPure [0, 1] core rec [a, b] st).out = (core [x, y] st).1 := by
  simp [stepPure, resolve2 rec a b x y ha hb]

/-- The same for three parameters (PWhite.min/max/length, PBrown.step/min/max, PRandomWalk.values/min/max,
    PSample.values/count/weights). -/
theorem pure3_consumes_once (core : List Val → St → Out × St) (rec : Rec) (a b c : Pat) (st : St) (x y z : Val)
    (ha : (rec a).out = .val x) (hb : (rec b).out = .val y) (hc : (rec c).out = .val z) :
    (stepPure [0, 1, 2] core rec [a, b, c] st).kids = [(rec a).p, (rec b).p, (rec c).p] ∧
    (stepPure [0, 1, 2] core rec [a, b, c] st).out = (core [x, y, z] st).1 := by
  simp [stepPure, resolve3 rec a b c x y z ha hb hc]

/-- A parameter that ends (or raises) ends the step: own state untouched, later parameters not read. -/
theorem pure_param_ends (core : List Val → St → Out × St) (rec : Rec) (a b : Pat) (st : St) (o : Out)
    (ha : (rec a).out = o) (hno : ∀ v, o ≠ .val v) :
    (stepPure [0, 1] core rec [a, b] st).out = o ∧ (stepPure [0, 1] core rec [a, b] st).st = st ∧
    (stepPure [0, 1] core rec [a, b] st).kids = [(rec a).p, b] := by
  have : resolve rec [0, 1] [a, b] = { vals := [], bad := some o, kids := [(rec a).p, b] } := resolve_bad ha hno
  simp [stepPure, this]

/-- **Block-wise: PRandomImpulseSequence reads `length` (and `probability`) only at the start of a cycle** —
    in the middle of a cycle no parameter is consumed. -/
theorem ris_mid_cycle_reads_nothing (rec : Rec) (kids : List Pat) (st : St) (h : st.n0.toNat < st.buf.length) :
    (stepRIS rec kids st).kids = kids := by
  simpa only [if_neg (Nat.not_le.mpr h)] using stepRIS_kids rec kids st

/-- … and at the start of a cycle `length` is read exactly once (first), `probability` at most once. -/
theorem ris_cycle_start_reads_length (rec : Rec) (p l : Pat) (st : St) (h : st.buf.length ≤ st.n0.toNat) :
    ∃ p', (stepRIS rec [p, l] st).kids = [p', (rec l).p] ∧ (p' = p ∨ p' = (rec p).p) := by
  have hk := stepRIS_kids rec [p, l] st
  rw [if_pos h] at hk
  rcases hk with hk | hk <;> rw [hk]
  · exact ⟨p, rfl, .inl rfl⟩
  · exact ⟨(rec p).p, rfl, .inr rfl⟩

/-- **Block-wise: PShuffleInput reads `every` only when a new block is fetched.** -/
theorem shuffleInput_mid_block_reads_nothing (rec : Rec) (kids : List Pat) (st : St)
    (h : st.n0.toNat < st.buf.length) (h0 : st.n0 ≠ 0) : (stepShuffleInput rec kids st).kids = kids := by
  simpa only [if_neg (not_or.mpr ⟨Nat.not_le.mpr h, h0⟩)] using stepShuffleInput_kids rec kids st

/-- **PSwitchOne reads `length` once at every step**, before anything else. -/
theorem switchOne_reads_length (rec : Rec) (inp l : Pat) (st : St) :
    ∃ i', (stepSwitchOne rec [inp, l] st).kids = [i', (rec l).p] ∧ (i' = inp ∨ i' = (rec inp).p) := by
  rcases stepSwitchOne_kids rec [inp, l] st with hk | hk <;> rw [hk]
  · exact ⟨inp, rfl, .inl rfl⟩
  · exact ⟨(rec inp).p, rfl, .inr rfl⟩

/-! Non-vacuity: a PFlipFlop whose `p_on` alternates 0, 1 (the repaired code reads it at every step). -/
section Example
def exFF : Pat :=
  .node .flipFlop [.node .seq [Pat.const (.flt 0), Pat.const (.flt 1)] { n0 := -1 }, Pat.const (.flt 0)]
    { v0 := .int 0, v1 := .int 0, tape := [.u (1/2), .u (1/2), .u (1/2)] }
example : outs 5 3 exFF = [.val (.int 0), .val (.int 1), .val (.int 1)] := by decide +kernel
example : (stepPure [0, 1] coinCore (stepF 3) [Pat.const (.flt (3/4)), Pat.const (.bool false)] { tape := [.u (1/2)] }).kids =
    [Pat.const (.flt (3/4)), Pat.const (.bool false)] := by rfl
end Example

end IsobarV.C12
