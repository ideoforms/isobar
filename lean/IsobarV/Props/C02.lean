/-
C02 — every note-on is released exactly once and on time; no stuck notes.

The counting argument is in IsobarV/Sched/Balance*.lean.  The first part (up to `stop_implies_silence`) holds
for every world of event streams `W`, every tick resolution `q`, both tolerance modes and EVERY history of API
calls and ticks (`List Step`, any length) — including callbacks that themselves call the timeline API, faults
at any event / voice, mute, update, unschedule, clear, and exhaustion.  The rest is about one event, one voice
list or one track: what is silent, how voices are paired with note-offs, and when a note-off is released; the
release tick (`Timely`) is an invariant of the per-track tick function `soloTick`, i.e. of tracks that do not
call the timeline API, and `C02Runs.lean` carries it along whole runs.
-/
import IsobarV.Sched.BalanceOps
import IsobarV.Sched.Solo

namespace IsobarV.C02
open IsobarV.Sched

/-- The state a freshly constructed `Timeline` starts from (no tracks; any configuration).  Not to be confused
    with `Sched.Fresh` (a track that is not finished-and-removable). -/
def Fresh0 (tl : TL) : Prop := tl.tracks = []

/-- One more stretch of history from any state without a finished track still awaiting removal (every
    reachable state is one) keeps the balance. -/
theorem balance_step (W : World) (tl : TL) (hA : AllFresh tl.tracks) (hist : List Step) (nc : NC) :
    onCount nc (run W tl hist).2 + pend nc tl = offCount nc (run W tl hist).2 + pend nc (run W tl hist).1 :=
  (run_bal (nc := nc) W hist tl hA).1

theorem Fresh0.allFresh {tl : TL} (h0 : Fresh0 tl) : AllFresh tl.tracks :=
  fun t ht => by rw [show tl.tracks = [] from h0] at ht; cases ht

/-- **Sounding = pending** (invariant over all histories).  For every (note, channel): the number of
    note-ons sent so far equals the number of note-offs sent so far plus the number of note-offs still
    pending in tracks that are in the timeline.  Hence a note-on is never released twice, never
    released without having been started, and it can only stay unreleased while a track of the
    timeline still holds its note-off. -/
theorem sounding_eq_pending (W : World) (tl0 : TL) (h0 : Fresh0 tl0) (hist : List Step) (nc : NC) :
    onCount nc (run W tl0 hist).2 = offCount nc (run W tl0 hist).2 + pend nc (run W tl0 hist).1 := by
  have := balance_step W tl0 h0.allFresh hist nc
  rw [pend, show tl0.tracks = [] from h0] at this
  exact this

/-- A note-off is never sent for a note that is not sounding: at every point of every history
    #offs ≤ #ons for every (note, channel). -/
theorem off_le_on (W : World) (tl0 : TL) (h0 : Fresh0 tl0) (hist : List Step) (nc : NC) :
    offCount nc (run W tl0 hist).2 ≤ onCount nc (run W tl0 hist).2 := by
  have := sounding_eq_pending W tl0 h0 hist nc; omega

/-- **No stuck notes.**  Whenever a history leaves the timeline without tracks — after `clear`, after
    the last `unschedule`, after the removal of faulting tracks, after every stream has ended — every
    note-on has been released exactly once. -/
theorem no_tracks_no_sound (W : World) (tl0 : TL) (h0 : Fresh0 tl0) (hist : List Step) (nc : NC)
    (hempty : (run W tl0 hist).1.tracks = []) :
    onCount nc (run W tl0 hist).2 = offCount nc (run W tl0 hist).2 := by
  rw [sounding_eq_pending W tl0 h0 hist nc, pend, hempty]; rfl

/-- A stop-when-done timeline only raises StopIteration from `tick()` in a state without tracks … -/
theorem stop_only_when_empty (W : World) (tl : TL) (h : (tickTL W tl).res = .stopIteration) :
    (tickTL W tl).tl.tracks = [] := by
  obtain ⟨r, -, -, htracks, ⟨hc, -, -⟩ | ⟨e, -⟩ | ⟨hr, e, -⟩⟩ := tickTL_cases W tl
  · exact htracks.trans hc.1
  · exact nomatch e.symm.trans h
  · rcases hr with hr | hr <;> exact nomatch (e.trans hr).symm.trans h

/-- … hence **a stop-when-done timeline never stops while a note is sounding**: if the last tick of a
    history raises StopIteration, every note-on of the whole history has been released. -/
theorem stop_implies_silence (W : World) (tl0 : TL) (h0 : Fresh0 tl0) (hist : List Step) (nc : NC)
    (hstop : (tickTL W (run W tl0 hist).1).res = .stopIteration) :
    onCount nc ((run W tl0 hist).2 ++ (tickTL W (run W tl0 hist).1).calls) =
      offCount nc ((run W tl0 hist).2 ++ (tickTL W (run W tl0 hist).1).calls) := by
  obtain ⟨hb, hA⟩ := run_bal (nc := nc) W hist tl0 h0.allFresh
  obtain ⟨hb2, _⟩ := tickTL_bal (nc := nc) W _ hA
  have he := stop_only_when_empty W _ hstop
  simp only [Fresh0] at h0
  simp only [Bal, pend, h0, he, pendTracks_nil, onCount_append, offCount_append] at *
  omega

/-- **Silent events**: an inactive event, or any event of a muted track, produces no device call and
    leaves the timeline unchanged. -/
theorem silent_inactive_or_muted (tl : TL) (t : Track) (d : Nat) (a : Bool) (k : EvKind)
    (h : a = false ∨ t.muted = true) :
    (performEvent tl t d a k).calls = [] ∧ (performEvent tl t d a k).tl = tl := by
  unfold performEvent; simp [h]

/-- **Silent voices**: a rest (no voices), zero / negative amplitude or zero / negative gate produce no
    message at all and schedule no note-off. -/
theorem silent_voices (base : Nat) (vs : List Voice) (h : ∀ v ∈ vs, v.amp ≤ 0 ∨ v.gpos = false) :
    (performVoices base vs).calls = [] ∧ (performVoices base vs).offs = [] ∧ (performVoices base vs).raised = false := by
  induction vs with
  | nil => simp [performVoices]
  | cons v vs ih =>
    have hv : ¬ (0 < v.amp ∧ v.gpos = true) := fun hc =>
      (h v (List.mem_cons_self ..)).elim (fun hv => by omega) (fun hv => by rw [hc.2] at hv; cases hv)
    rw [performVoices, if_neg hv]
    exact ih fun x hx => h x (List.mem_cons_of_mem _ hx)

/-- Each sounding voice of a chord gets its own note-off, timed with that voice's own length
    (per-voice gates): the note-offs scheduled by one event are exactly the voices that sounded. -/
theorem voices_paired (base : Nat) (vs : List Voice) (hok : (performVoices base vs).raised = false) :
    (performVoices base vs).offs =
      (vs.filter (fun v => decide (0 < v.amp) && v.gpos)).map
        (fun v => { time := base + v.len, note := v.note, chan := v.chan }) ∧
    (performVoices base vs).calls =
      (vs.filter (fun v => decide (0 < v.amp) && v.gpos)).map (fun v => Call.noteOn v.note v.amp v.chan) := by
  induction vs with
  | nil => exact ⟨rfl, rfl⟩
  | cons v vs ih =>
    rw [performVoices] at hok ⊢
    by_cases hc : 0 < v.amp ∧ v.gpos = true
    · rw [if_pos hc] at hok ⊢
      rw [List.filter_cons_of_pos (by rw [decide_eq_true hc.1, hc.2]; rfl)]
      cases hb : v.bad with
      | true => rw [hb] at hok; cases hok
      | false =>
        rw [hb] at hok
        obtain ⟨i1, i2⟩ := ih hok
        exact ⟨congrArg (_ :: ·) i1, congrArg (_ :: ·) i2⟩
    · rw [if_neg hc] at hok ⊢
      rw [List.filter_cons_of_neg (by simpa using hc)]
      exact ih hok

/-! ### Timing of the release (track-local clauses)

The note-off of a voice that sounds at local tick `cur` is queued for time `cur·q + len`
(`voices_paired`), every timeline tick starts by releasing, for every track in the timeline, exactly
the queued note-offs whose time has come and keeps the others (`release_rule`), and a note-off is
never due in the tick that queued it (`not_in_onset_tick`), which together with "one local tick per
timeline tick" (`C01.local_time_advances`) fixes the release tick to `cur + ⌈len / q⌉`. -/

/-- A voice is well formed when a positive gate means a positive length (duration × gate > 0). -/
def VoiceWF (v : Voice) : Prop := v.gpos = true → 0 < v.len

theorem release_rule (q : Nat) (t : Track) (o : NoteOff) :
    (o ∈ dueOffs q t ↔ o ∈ t.offs ∧ o.time ≤ t.cur * q) ∧
    (o ∈ (t.processOffs q).offs ↔ o ∈ t.offs ∧ t.cur * q < o.time) := by
  simp [dueOffs, Track.processOffs, keepOffs, Nat.not_le]

/-- The first phase of a timeline tick sends exactly the due note-offs of every track, in track
    order, each track's in the order they were queued. -/
theorem phase_one_calls (q : Nat) (ts : List Track) :
    phaseOffsCalls q ts = (ts.map (fun t => (dueOffs q t).map (fun o => Call.noteOff o.note o.chan))).flatten := rfl

theorem not_in_onset_tick (cur q : Nat) (vs : List Voice) (hwf : ∀ v ∈ vs, VoiceWF v) :
    ∀ o ∈ (performVoices (cur * q) vs).offs, cur * q < o.time := by
  induction vs with
  | nil => simp [performVoices]
  | cons v vs ih =>
    have ih' := ih fun x hx => hwf x (List.mem_cons_of_mem _ hx)
    rw [performVoices]
    by_cases hc : 0 < v.amp ∧ v.gpos = true
    · rw [if_pos hc]
      cases v.bad with
      | true => exact fun _ ho => nomatch ho
      | false =>
        intro o ho
        rcases List.mem_cons.mp ho with rfl | ho
        · exact Nat.lt_add_of_pos_right (hwf v (List.mem_cons_self ..) hc.2)
        · exact ih' o ho
    · rw [if_neg hc]; exact ih'

/-! ### Release on the first due tick (invariant of the per-track tick function)

`C07.non_interference` shows that, for tracks that do not call the timeline API, a track evolves from
tick to tick by the per-track function `t ↦ soloTick W q (applyStarts q due (t.processOffs q))`
(`C02Runs.lean` applies what follows to every tick of such a run).
`Timely` — no pending note-off is overdue by a whole tick — is an invariant of that function (for
well-formed voices), and under it every note-off that the note-off phase releases is released on
exactly the first tick at or after its time, never in the tick that queued it. -/

/-- No pending note-off of the track is overdue by a whole tick. -/
def Timely (q : Nat) (t : Track) : Prop := ∀ o ∈ t.offs, t.cur * q < o.time + q

/-- All note events of the world have well-formed voices (positive gate ⇒ positive length). -/
def WorldWF (W : World) : Prop := ∀ sid pos d a vs, W sid pos = some (.ev d a (.note vs)) → ∀ v ∈ vs, VoiceWF v

theorem soloTick_timely (W : World) (hW : WorldWF W) (q : Nat) (t : Track)
    (hstrict : ∀ o ∈ t.offs, t.cur * q < o.time) : Timely q (soloTick W q t).t := by
  -- nothing pending is due, the time moves by at most one tick: nothing is overdue by a whole tick
  have timely : ∀ u : Track, u.cur ≤ t.cur + 1 → (∀ o ∈ u.offs, t.cur * q < o.time) → Timely q u := by
    intro u hc hu o ho
    have h1 := hu o ho
    have h2 := Nat.mul_le_mul_right q hc
    rw [Nat.add_mul, Nat.one_mul] at h2
    omega
  unfold soloTick
  split
  · exact timely t (Nat.le_succ _) hstrict
  · split
    · obtain ⟨_, _, _, hpt⟩ := pullLoop_frame W q (t.fuel q) t .stop
      have hev := @pullLoop_ev W q (t.fuel q) t
      obtain ⟨os, f, cu, he, _, _, hcur, hoffs⟩ := soloAfterPull_frame q (Track.pullLoop W q (t.fuel q) t .stop)
      generalize Track.pullLoop W q (t.fuel q) t .stop = p at hpt hev he hoffs hcur
      have hpo : p.t.offs = t.offs := by rw [hpt]
      have hpc : p.t.cur = t.cur := by rw [hpt]
      rw [he]
      refine timely _ (hpc ▸ hcur) fun o ho => ?_
      rcases hoffs with h | ⟨d, a, vs, hr, h⟩
      · exact hstrict o (hpo ▸ h ▸ ho)
      · -- a note event of the world: its voices are well formed, so its note-offs lie in the future
        obtain ⟨sid, pos, hw⟩ := hev hr
        rw [hpo, hpc] at h
        have ho : o ∈ t.offs ++ (performVoices (t.cur * q) vs).offs := h ▸ ho
        rcases List.mem_append.mp ho with ho | ho
        · exact hstrict o ho
        · exact not_in_onset_tick t.cur q vs (hW sid pos d a vs hw) o ho
    · exact timely _ (Nat.le_refl _) hstrict

/-- **`Timely` is an invariant of the per-track tick function.** -/
theorem timely_invariant (W : World) (hW : WorldWF W) (q : Nat) (due : List PAct) (t : Track) :
    Timely q (soloTick W q (applyStarts q due (t.processOffs q))).t := by
  apply soloTick_timely W hW q
  -- a start touches neither the pending note-offs nor the local time, and nothing that stays pending is due
  obtain ⟨_, _, _, _, h⟩ := applyStarts_frame q due (t.processOffs q)
  rw [h]
  exact fun o ho => ((release_rule q t o).2.mp ho).2

/-- **Released exactly on time.**  For a timely track, every note-off sent by the note-off phase at
    local tick `cur` has `cur` as the first tick at or after its time: `cur = ⌈time / q⌉`.  Since the
    time is `onset tick · q + duration × gate` (`voices_paired`) with a positive length, that is the
    first tick at or after onset + duration × gate, and never the onset tick itself. -/
theorem released_on_first_due_tick (q : Nat) (hq : 0 < q) (t : Track) (ht : Timely q t) (o : NoteOff)
    (ho : o ∈ dueOffs q t) : t.cur = cdiv o.time q := by
  obtain ⟨hmem, hdue⟩ := (release_rule q t o).1.mp ho
  have hlate := ht o hmem
  apply (first_due_tick q o.time t.cur hq).mp
  refine ⟨hdue, fun c' hc' hle => ?_⟩
  have : (c' + 1) * q ≤ t.cur * q := Nat.mul_le_mul_right q hc'
  rw [Nat.add_mul] at this
  omega

/-! Non-vacuity: a concrete history with a chord, an update, a mute and an unschedule while notes
    sound; the model really emits note-ons and the balance is non-trivial. -/
section Example
def exW : World := fun sid pos =>
  if sid = 0 then
    some (.ev 7 true (.note [{ note := 60, amp := 64, len := 14, gpos := true, chan := 0 },
                             { note := 64, amp := 64, len := 3, gpos := true, chan := 0 }]))
  else if pos < 2 then some (.ev 5 true (.note [{ note := 72, amp := 90, len := 20, gpos := true, chan := 1 }]))
  else none
def exHist : List Step :=
  [.op (.schedule 0 none none none true none true), .tick, .tick, .tick,
   .op (.update 0 1 none none none), .tick, .op (.mute 0), .tick, .tick, .op (.unschedule 0), .tick]
example : onCount (60, 0) (run exW { q := 3 } exHist).2 = 1 ∧ offCount (60, 0) (run exW { q := 3 } exHist).2 = 1 ∧
    onCount (72, 1) (run exW { q := 3 } exHist).2 = 1 ∧ (run exW { q := 3 } exHist).1.tracks = [] := by decide +kernel
end Example

end IsobarV.C02
