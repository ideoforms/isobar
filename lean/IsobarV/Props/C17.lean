/-
C17 — a failing track cannot take the rest of the performance down.
-/
import IsobarV.Props.C07

namespace IsobarV.C17
open IsobarV.Sched

/-- **Tolerant mode never lets a track's exception escape the track phase** — for every snapshot,
    every fault site (pattern evaluation, event construction, any voice of the device's note-on,
    control, program change), every number and order of tracks. -/
theorem tolerant_never_raises (W : World) (ids : List Nat) (tl : TL) (htol : tl.tolerant = true) :
    (phaseTracks W tl ids).res ≠ .raised := by
  induction ids generalizing tl with
  | nil => exact fun h => nomatch h
  | cons tid rest ih =>
    have hS := sameCfg_stable W tl
    have h1 := hS.of_tickTrack tid (SameCfg.refl tl)
    simp only [phaseTracks]
    split
    · exact fun h => nomatch h
    · rw [if_pos htol]
      exact ih _ ((hS.removeTrack tid h1).2.1.trans htol)
    · exact ih _ ((hS.of_dropFinished tid h1).2.1.trans htol)

/-- … so **the timeline keeps ticking and its time advances by exactly one tick per tick** (unless it
    stops because it is done), whatever fails inside the tracks. -/
theorem tolerant_time_advances (W : World) (tl : TL) (htol : tl.tolerant = true)
    (hdom : (tickTL W tl).res ≠ .diverged) :
    ((tickTL W tl).res = .ok ∧ (tickTL W tl).tl.now = tl.now + 1) ∨
    ((tickTL W tl).res = .stopIteration ∧ (tickTL W tl).tl.now = tl.now) := by
  have hS := sameCfg_stable W (phaseOffs tl)
  have hfa : SameCfg (phaseOffs tl) (fireActions (phaseOffs tl)) := hS.of_fireOnes _ (SameCfg.refl _)
  obtain ⟨r, hr, -, -, hc⟩ := tickTL_cases W tl
  -- the time is still that of the start of the tick when the track phase is over
  have hnow : r.tl.now = tl.now := hr ▸ (hS.of_phaseTracks _ hfa).2.2
  rcases hc with ⟨-, e1, e2⟩ | ⟨e1, e2⟩ | ⟨hr' | hr', e1, -⟩
  · exact Or.inr ⟨e1, e2 ▸ hnow⟩
  · exact Or.inl ⟨e1, e2 ▸ congrArg (· + 1) hnow⟩
  · exact absurd (hr ▸ hr') (tolerant_never_raises W _ _ (hfa.2.1.trans htol))
  · exact absurd (e1.trans hr') hdom

/-- **Intolerant mode: the same exception propagates to the caller of `tick()`.** -/
theorem fault_propagates (W : World) (tl : TL) (tid : Nat) (rest : List Nat) (hint : tl.tolerant = false)
    (hraise : (tickTrack W tl tid).out = .raised) :
    (phaseTracks W tl (tid :: rest)).res = .raised ∧
    (phaseTracks W tl (tid :: rest)).calls = (tickTrack W tl tid).calls := by
  simp [phaseTracks, hraise, hint]

/-- **Tolerant mode: the failing track — and only it — is removed, its sounding notes are released,
    and every later track of the snapshot is still ticked in the same tick.** -/
theorem fault_contained_step (W : World) (tl : TL) (tid : Nat) (rest : List Nat) (htol : tl.tolerant = true)
    (hraise : (tickTrack W tl tid).out = .raised) :
    phaseTracks W tl (tid :: rest) =
      { tl := (phaseTracks W ((tickTrack W tl tid).tl.removeTrack tid) rest).tl,
        calls := (tickTrack W tl tid).calls ++ flushOf (tickTrack W tl tid).tl tid ++
                 (phaseTracks W ((tickTrack W tl tid).tl.removeTrack tid) rest).calls,
        res := (phaseTracks W ((tickTrack W tl tid).tl.removeTrack tid) rest).res } := by
  simp [phaseTracks, hraise, htol]

/-- **An exception inside a user action callback never stops its track, in either mode**: neither an
    exception raised by the callback itself nor one raised by a timeline call it makes escapes the
    event; the track is not marked as stopped. -/
theorem callback_exception_swallowed (tl : TL) (t : Track) (d : Nat) (ops : List Op) (out : Outcome)
    (h : out = .exc ∨ (applyOps tl ops).res ≠ .ok) (hact : t.muted = false) :
    (performEvent tl t d true (.action ops out)).raised = false ∧
    (performEvent tl t d true (.action ops out)).stopped = false := by
  have hon : ¬ (true = false ∨ t.muted = true) := fun h => h.elim Bool.noConfusion (fun h => nomatch hact.symm.trans h)
  rw [performEvent, if_neg hon]
  refine ⟨rfl, ?_⟩
  show ((applyOps tl ops).res == .ok && out == .stop) = false
  rcases h with rfl | h
  · exact Bool.and_false _
  · rw [beq_eq_false_iff_ne.mpr h]; rfl

/-- **A StopIteration raised by the callback ends that track as documented**: it escapes the event
    (`stopped`), and the end-of-tick bookkeeping then marks the track finished as soon as none of its
    notes is sounding (`C06.finished_iff`), upon which it is removed (`C06.removal_rule`). -/
theorem callback_stop_ends_track (tl : TL) (t : Track) (d : Nat) (ops : List Op)
    (hok : (applyOps tl ops).res = .ok) (hact : t.muted = false) :
    (performEvent tl t d true (.action ops .stop)).stopped = true ∧
    (performEvent tl t d true (.action ops .stop)).raised = false := by
  simp [performEvent, hact, hok]

/-- **Containment.**  Tolerant mode, tracks that do not call the timeline API: with a failing track
    `bad` anywhere in the scheduling order, (1) the event phase is the other tracks' phase with
    `bad`'s own contribution (its calls up to the fault, then the release of its notes) spliced in at
    its place, (2) the tracks left in the timeline are exactly those left by the event phase WITHOUT `bad`,
    (3) the event phase without `bad` is the concatenation of the two halves — so in this tick every other
    track's output and state are identical to those without the failing track, for every position of `bad`,
    every number of healthy tracks, every fault site and event index (`fault_isolated_run` of `Props/C17Runs.lean`:
    any number of ticks). -/
theorem fault_isolated (W : World) (q : Nat) (ts1 ts2 : List Track) (bad : Track)
    (hdom : ∀ t ∈ ts1 ++ bad :: ts2, (soloTick W q t).out ≠ .diverged)
    (hraise : (soloTick W q bad).out = .raised) :
    (soloPhase W q true (ts1 ++ bad :: ts2)).calls =
      (soloPhase W q true ts1).calls ++ C07.contribution W q bad ++ (soloPhase W q true ts2).calls ∧
    (soloPhase W q true (ts1 ++ bad :: ts2)).tracks = (soloPhase W q true (ts1 ++ ts2)).tracks ∧
    (soloPhase W q true (ts1 ++ ts2)).calls = (soloPhase W q true ts1).calls ++ (soloPhase W q true ts2).calls ∧
    (soloPhase W q true (ts1 ++ bad :: ts2)).res = .ok := by
  have hd := List.forall_mem_append.mp hdom
  have h2 := (List.forall_mem_cons.mp hd.2).2
  obtain ⟨a1, a2, a3⟩ := C07.event_phase_is_merge W q true _ hdom (Or.inl rfl)
  obtain ⟨b1, _, _⟩ := C07.event_phase_is_merge W q true ts1 hd.1 (Or.inl rfl)
  obtain ⟨c1, _, _⟩ := C07.event_phase_is_merge W q true ts2 h2 (Or.inl rfl)
  obtain ⟨d1, d2, _⟩ := C07.event_phase_is_merge W q true (ts1 ++ ts2) (List.forall_mem_append.mpr ⟨hd.1, h2⟩) (Or.inl rfl)
  have hsurv : C07.survivor W q bad = none := by
    rw [C07.survivor, if_neg]
    exact fun h => nomatch hraise.symm.trans h.1
  refine ⟨?_, ?_, ?_, a3⟩
  · rw [a1, b1, c1, List.map_append, List.flatten_append, List.map_cons, List.flatten_cons, List.append_assoc]
  · rw [a2, d2, List.filterMap_append, List.filterMap_append, List.filterMap_cons_none hsurv]
  · rw [d1, b1, c1, List.map_append, List.flatten_append]

end IsobarV.C17
