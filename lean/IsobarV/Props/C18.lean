/-
C18 — Automations reach their target on time; LFOs stay in range and periodic.

  "An automation asked to move to, or by, a value over a duration arrives exactly at the target after
   ceil(duration / tick) ticks for every envelope fraction from 0 to 1 (on the next tick for zero duration),
   moves monotonically toward it and then stays put; its reported value is clipped or wrapped into the
   declared range and every bound attribute or method receives each new value.  A sine LFO's value stays
   within [min, max], repeats with period 1 / frequency beats, and reads as a pattern with that same value."

All theorems are about the model `IsobarV/Auto/Model.lean` (exact rationals), for every start value, target,
duration, envelope fraction, ticks-per-beat, range and history: no bound on sizes or on the number of ticks.
The auxiliary notions `Automation.WF` (every running modulation is in a state the code can reach),
`Automation.goal` (current value + what the running modulations still add), `Automation.Within k` (every
running modulation finishes within k ticks), `Automation.Dir s` (every running modulation pushes in direction
`s = ±1`) and `World.InSync` are defined in `IsobarV/Auto/Lemmas.lean`.
-/
import IsobarV.Auto.Lemmas

namespace IsobarV.C18
open IsobarV.Auto

/-- Every entry of the normalised envelope is non-negative (for every envelope length `e ≤ T`, i.e. every
    envelope fraction in [0, 1]). -/
theorem envelope_nonneg (T e : Nat) (he : e ≤ T) : ∀ x ∈ envelope T e, 0 ≤ x :=
  envelope_nonneg' T e he

example : envelope 6 3 = [0, 1, 2, 2, 1, 0] := by decide +kernel
example : envelope 5 0 = [1, 1, 1, 1, 1] := by decide +kernel
example : envelope 1 0 = [1] ∧ envelope 1 1 = [1] ∧ envelope 2 1 = [0, 2] := by decide +kernel

/-- The envelope has one entry per tick and sums to the number of ticks ("normalised to mean 1"): this is
    what makes the move arrive exactly.  Needs the sum before normalisation to be positive, which holds
    because the ramp-out starts with a 1. -/
theorem envelope_sum (T e : Nat) (he : e ≤ T) :
    (envelope T e).length = T ∧ sumRat (envelope T e) = (T : Rat) :=
  ⟨envelope_length T e, envelope_sum' T e he⟩

example : sumRat (envelope 7 7) = 7 ∧ sumRat (envelope 7 2) = 7 := by decide +kernel

/-- A duration of exactly `k` ticks (`k / tpb` beats) is `k` ticks — not `k + 1` (fix 02). -/
theorem duration_ticks_on_grid (tpb k : Nat) (h : 0 < tpb) :
    durationTicksInt tpb ((k : Rat) / (tpb : Rat)) = (k : Int) := by
  unfold durationTicksInt
  rw [div_mul_cancel₀ _ (Nat.cast_ne_zero.mpr h.ne'), ← Int.cast_natCast, Rat.ceil_intCast]

example : durationTicksInt 24 (5 / 24) = 5 := by decide +kernel

/-- `duration_ticks` is `⌈duration / tick_duration⌉` with `tick_duration = 1 / tpb`: the least whole number
    of ticks that covers the duration. -/
theorem duration_ticks_is_ceil (tpb : Nat) (dur : Rat) :
    dur / (1 / (tpb : Rat)) ≤ ((durationTicksInt tpb dur : Int) : Rat) ∧
    ((durationTicksInt tpb dur : Int) : Rat) < dur / (1 / (tpb : Rat)) + 1 := by
  unfold durationTicksInt
  rw [div_div_eq_mul_div, div_one]
  exact ⟨Rat.le_ceil, Rat.ceil_lt⟩

example : durationTicksInt 24 (3 / 10) = 8 := by decide +kernel

/-- Inside the property's domain (duration ≥ 0, envelope fraction in [0, 1]) neither `move_to` nor `move_by`
    raises — in particular not for envelope fraction 0, 1-tick moves, or `envelope · D < 1` (fix 01). -/
theorem move_never_raises (a : Automation) (tpb : Nat) (v : Rat) (dur : Option Rat) (env : Rat)
    (hd : 0 ≤ dur.getD a.defaultDuration) (he0 : 0 ≤ env) (he1 : env ≤ 1) :
    (a.moveTo tpb v dur env).raised = false ∧ (a.moveBy tpb v dur env).raised = false :=
  ⟨Automation.moveBy_ok { a with mods := [] } tpb _ dur env hd he0 he1,
   Automation.moveBy_ok a tpb v dur env hd he0 he1⟩

example : ((Automation.new none .clip (some 0) 0).moveTo 24 1 (some (1 / 24)) (1 / 2)).raised = false := by
  decide +kernel

/-- Every state reachable from a state whose modulations are well-formed (in particular from a fresh
    automation, which has none) by any history of bind / move_to / move_by / jump_to / tick — with arbitrary
    arguments, including ones that make the call raise — is well-formed again. -/
theorem reachable_wf (ops : List Op) (W : World) (h : W.auto.WF) : (W.run ops).auto.WF :=
  World.run_invariant World.step_wf ops W h

example : (World.run ⟨Automation.new none .clip none 0, Sinks.empty⟩
    [.moveBy 4 1 (some 2) (1 / 2), .tick, .moveBy 4 1 (some 1) 0, .tick]).auto.mods.length = 2 := by
  decide +kernel

/-- Concurrent moves superpose exactly.  For an automation in any reachable state whose running modulations
    all finish within `k` ticks and which is heading for `goal` (= current value + what those modulations
    still add): a further `move_by(value, …)` makes it arrive exactly at `goal + value` after
    `max k (max 1 ⌈duration / tick⌉)` ticks, and it stays there. -/
theorem concurrent_moves_arrive_exactly (a : Automation) (hwf : a.WF) (k : Nat) (hk : a.Within k)
    (tpb : Nat) (value : Rat) (dur : Option Rat) (env : Rat)
    (hd : 0 ≤ dur.getD a.defaultDuration) (he0 : 0 ≤ env) (he1 : env ≤ 1) :
    (a.moveBy tpb value dur env).raised = false ∧
    ∀ n, max k (max 1 (durationTicksInt tpb (dur.getD a.defaultDuration)).toNat) ≤ n →
      (Automation.tickN n (a.moveBy tpb value dur env).auto).auto.current = a.goal + value ∧
      (Automation.tickN n (a.moveBy tpb value dur env).auto).auto.mods = [] := by
  have hr := Automation.moveBy_ok a tpb value dur env hd he0 he1
  obtain ⟨s1, s2, s3, _⟩ := Automation.moveBy_spec hr
  refine ⟨hr, fun n hn => ?_⟩
  rw [← s2]
  exact Automation.tickN_arrives (s1 hwf) (s3 _ (hk.mono (le_max_left _ _)) (le_max_right _ _)) hn

-- +1 over 8 ticks and, two ticks later, -3 over 2 ticks: exactly 0 + 1 - 3 at the end
example : (World.run ⟨Automation.new none .clip (some 0) 0, Sinks.empty⟩
    [.moveBy 4 1 (some 2) (1 / 2), .tick, .tick, .moveBy 4 (-3) (some (1 / 2)) 0,
     .tick, .tick, .tick, .tick, .tick, .tick]).auto.current = -2 := by
  decide +kernel

/-- `move_by(value, duration, envelope)` on an idle automation: after `max 1 ⌈duration / tick⌉` ticks (and
    ever after) the value is exactly `start + value`. -/
theorem move_by_arrives_exactly (a : Automation) (hidle : a.mods = []) (tpb : Nat) (value : Rat)
    (dur : Option Rat) (env : Rat)
    (hd : 0 ≤ dur.getD a.defaultDuration) (he0 : 0 ≤ env) (he1 : env ≤ 1) :
    (a.moveBy tpb value dur env).raised = false ∧
    ∀ n, max 1 (durationTicksInt tpb (dur.getD a.defaultDuration)).toNat ≤ n →
      (Automation.tickN n (a.moveBy tpb value dur env).auto).auto.current = a.current + value ∧
      (Automation.tickN n (a.moveBy tpb value dur env).auto).auto.mods = [] := by
  obtain ⟨hwf, hg, hw, _⟩ := Automation.idle_spec hidle
  have h := concurrent_moves_arrive_exactly a hwf 0 (hw 0) tpb value dur env hd he0 he1
  rw [hg, Nat.zero_max] at h
  exact h

example : (Automation.tickN 7 ((Automation.new none .clip (some 10) 0).moveBy 10 (-4) (some (7 / 10)) 1).auto).auto.current = 6 := by
  have := ((move_by_arrives_exactly (Automation.new none .clip (some 10) 0) rfl 10 (-4) (some (7 / 10)) 1
    (by decide +kernel) (by decide +kernel) (by decide +kernel)).2 7 (by decide +kernel)).1
  rw [this]; decide +kernel

/-- `move_to(target, duration, envelope)`: after `max 1 ⌈duration / tick⌉` ticks — and after any larger number
    of ticks — the value is exactly the target and no modulation is left running.  For every start state
    (running modulations are discarded by `move_to`), every target, every duration ≥ 0 (explicit or the
    default), every envelope fraction in [0, 1], every ticks-per-beat. -/
theorem arrives_exactly (a : Automation) (tpb : Nat) (target : Rat) (dur : Option Rat) (env : Rat)
    (hd : 0 ≤ dur.getD a.defaultDuration) (he0 : 0 ≤ env) (he1 : env ≤ 1) :
    (a.moveTo tpb target dur env).raised = false ∧
    ∀ n, max 1 (durationTicksInt tpb (dur.getD a.defaultDuration)).toNat ≤ n →
      (Automation.tickN n (a.moveTo tpb target dur env).auto).auto.current = target ∧
      (Automation.tickN n (a.moveTo tpb target dur env).auto).auto.mods = [] := by
  -- `move_to` is `move_by (target - current)` after the running modulations have been discarded
  have h := move_by_arrives_exactly { a with mods := [] } rfl tpb (target - a.current) dur env hd he0 he1
  rw [add_sub_cancel] at h
  exact h

example : (Automation.tickN 5 ((Automation.new none .clip (some 0) 0).moveTo 24 1 (some (5 / 24)) 0).auto).auto.current = 1 :=
  ((arrives_exactly (Automation.new none .clip (some 0) 0) 24 1 (some (5 / 24)) 0
    (by decide +kernel) (by decide +kernel) (by decide +kernel)).2 5 (by decide +kernel)).1

-- zero duration: on the next tick
example : (Automation.tickN 1 ((Automation.new none .clip (some 3) 0).moveTo 480 (-2) none (1 / 2)).auto).auto.current = -2 :=
  ((arrives_exactly (Automation.new none .clip (some 3) 0) 480 (-2) none (1 / 2)
    (by decide +kernel) (by decide +kernel) (by decide +kernel)).2 1 (by decide +kernel)).1

/-- While every running modulation pushes in direction `s` (`1`: up, `-1`: down), after a further `move_by`
    in that direction every tick moves the value that way and never past the new goal. -/
theorem move_by_monotone (a : Automation) (hwf : a.WF) (s : Rat) (hs : a.Dir s)
    (tpb : Nat) (value : Rat) (dur : Option Rat) (env : Rat)
    (hd : 0 ≤ dur.getD a.defaultDuration) (he0 : 0 ≤ env) (he1 : env ≤ 1) (hv : 0 ≤ s * value) (n : Nat) :
    0 ≤ s * ((Automation.tickN (n + 1) (a.moveBy tpb value dur env).auto).auto.current -
              (Automation.tickN n (a.moveBy tpb value dur env).auto).auto.current) ∧
    0 ≤ s * (a.goal + value - (Automation.tickN (n + 1) (a.moveBy tpb value dur env).auto).auto.current) := by
  obtain ⟨s1, s2, _, s4⟩ := Automation.moveBy_spec (Automation.moveBy_ok a tpb value dur env hd he0 he1)
  rw [← s2]
  exact Automation.monotone_step (s1 hwf) (s4 s hs hv) n

/-- After `move_to`, on every tick the value moves toward the target (weakly: envelope entries may be 0) and
    never passes it. -/
theorem monotone_toward_target (a : Automation) (tpb : Nat) (target : Rat) (dur : Option Rat) (env : Rat)
    (hd : 0 ≤ dur.getD a.defaultDuration) (he0 : 0 ≤ env) (he1 : env ≤ 1) (n : Nat) :
    (a.current ≤ target →
      (Automation.tickN n (a.moveTo tpb target dur env).auto).auto.current ≤
        (Automation.tickN (n + 1) (a.moveTo tpb target dur env).auto).auto.current ∧
      (Automation.tickN (n + 1) (a.moveTo tpb target dur env).auto).auto.current ≤ target) ∧
    (target ≤ a.current →
      (Automation.tickN (n + 1) (a.moveTo tpb target dur env).auto).auto.current ≤
        (Automation.tickN n (a.moveTo tpb target dur env).auto).auto.current ∧
      target ≤ (Automation.tickN (n + 1) (a.moveTo tpb target dur env).auto).auto.current) := by
  obtain ⟨hwf, hg, _, hdir⟩ := Automation.idle_spec (a := { a with mods := [] }) rfl
  have key (s : Rat) (hs : 0 ≤ s * (target - a.current)) :=
    move_by_monotone { a with mods := [] } hwf s (hdir s) tpb (target - a.current) dur env hd he0 he1 hs n
  rw [hg, add_sub_cancel] at key
  exact ⟨fun hle => (key 1 (dir_up.mpr hle)).imp dir_up.mp dir_up.mp,
    fun hle => (key (-1) (dir_down.mpr hle)).imp dir_down.mp dir_down.mp⟩

example : (List.range 7).map (fun n => (Automation.tickN n
    ((Automation.new none .clip (some 0) 0).moveTo 24 1 (some (1 / 4)) (1 / 2)).auto).auto.current)
    = [0, 0, 1 / 6, 1 / 2, 5 / 6, 1, 1] := by decide +kernel

/-- An automation with no running modulation stays put: any number of further ticks leaves the value
    unchanged, starts nothing and sends nothing to the bound objects.  (With `arrives_exactly`: from the
    arrival tick on, the value is the target for ever.) -/
theorem stays_put (a : Automation) (hidle : a.mods = []) (n : Nat) :
    (Automation.tickN n a).auto.current = a.current ∧ (Automation.tickN n a).auto.value = a.value ∧
    (Automation.tickN n a).auto.mods = [] ∧ (Automation.tickN n a).events = [] := by
  rw [Automation.tickN_idle n a hidle]
  exact ⟨rfl, rfl, hidle, rfl⟩

example : (Automation.tickN 100 (Automation.new none .clip (some 3) 0)).auto.current = 3 :=
  (stays_put _ rfl 100).1

/-- With boundaries "clip" the reported value lies in the declared range. -/
theorem value_clipped (a : Automation) (r : Range) (hr : a.range = some r) (hb : a.boundaries = .clip)
    (h : r.lo ≤ r.hi) : r.lo ≤ a.value ∧ a.value ≤ r.hi := by
  rw [Automation.value_clip hr hb]
  exact clip_bounds r.lo r.hi a.current h

example : ({ range := some ⟨0, 1⟩, current := 5 / 2 } : Automation).value = 1 := by decide +kernel

/-- With boundaries "wrap" the reported value lies in `[lo, hi)` and differs from the underlying value by a
    whole number of range widths (fix 03: the unpatched formula `lo + current % (hi - lo)` does not have the
    second property unless `lo` is a multiple of the width). -/
theorem value_wrapped (a : Automation) (r : Range) (hr : a.range = some r) (hb : a.boundaries = .wrap)
    (h : r.lo < r.hi) :
    r.lo ≤ a.value ∧ a.value < r.hi ∧ ∃ k : Int, a.value = a.current - (k : Rat) * (r.hi - r.lo) := by
  rw [Automation.value_wrap hr hb]
  obtain ⟨h1, h2⟩ := pmod_bounds (a.current - r.lo) (r.hi - r.lo) (sub_pos.mpr h)
  refine ⟨le_add_of_nonneg_right h1, lt_sub_iff_add_lt'.mp h2, ((a.current - r.lo) / (r.hi - r.lo)).floor, ?_⟩
  rw [pmod, ← add_sub_assoc, add_sub_cancel, mul_comm]

example : ({ range := some ⟨-1, 1⟩, boundaries := .wrap, current := 0 } : Automation).value = 0 ∧
    ({ range := some ⟨-1, 1⟩, boundaries := .wrap, current := 5 / 2 } : Automation).value = 1 / 2 ∧
    ({ range := some ⟨1, 3⟩, boundaries := .wrap, current := -1 / 2 } : Automation).value = 3 / 2 := by
  decide +kernel

/-- A value inside the declared range is reported unchanged (clip: `lo ≤ v ≤ hi`; wrap: `lo ≤ v < hi`);
    without a range the value is always reported unchanged. -/
theorem value_in_range_is_current (a : Automation) :
    (a.range = none → a.value = a.current) ∧
    (∀ r, a.range = some r → a.boundaries = .clip → r.lo ≤ a.current → a.current ≤ r.hi → a.value = a.current) ∧
    (∀ r, a.range = some r → a.boundaries = .wrap → r.lo ≤ a.current → a.current < r.hi → a.value = a.current) := by
  refine ⟨fun h => ?_, fun r hr hb h1 h2 => ?_, fun r hr hb h1 h2 => ?_⟩
  · unfold Automation.value
    rw [h]
  · rw [Automation.value_clip hr hb, clip_id _ _ _ h1 h2]
  · rw [Automation.value_wrap hr hb, pmod_id _ _ (sub_nonneg.mpr h1) (sub_lt_sub_right h2 _), add_sub_cancel]

example : ({ range := some ⟨1, 3⟩, boundaries := .wrap, current := 3 / 2 } : Automation).value = 3 / 2 := by
  decide +kernel

/-- On every tick: if the value changed, every bound sink receives — once, in binding order — the new reported
    value; if it did not change nothing is sent.  `jump_to` sends the new reported value to every binding,
    `bind_to` initialises the new sink with the current reported value. -/
theorem bindings_receive_every_value (a : Automation) :
    ((a.tick).auto.current ≠ a.current →
        (a.tick).events = a.bindings.map (fun s => (⟨s, (a.tick).auto.value⟩ : Event))) ∧
    ((a.tick).auto.current = a.current → (a.tick).events = []) ∧
    (a.tick).auto.bindings = a.bindings ∧
    (∀ v, (a.jumpTo v).events = a.bindings.map (fun s => (⟨s, (a.jumpTo v).auto.value⟩ : Event))) ∧
    (∀ s, (a.bindTo s).events = [⟨s, a.value⟩] ∧ (a.bindTo s).auto.bindings = a.bindings ++ [s]) := by
  refine ⟨fun h => ?_, fun h => ?_, ?_, fun v => rfl, fun s => ⟨rfl, rfl⟩⟩
  · rw [Automation.tick_events, if_pos h]
  · rw [Automation.tick_events, if_neg (not_not.mpr h)]
  · rw [Automation.tick_auto]

example : (({ bindings := [7, 9], current := 0 } : Automation).moveTo 4 1 (some (1 / 2)) 0).auto.tick.events
    = [⟨7, 1 / 2⟩, ⟨9, 1 / 2⟩] := by decide +kernel

/-- For every history of bind / move_to / move_by / jump_to / tick on an automation (arbitrary arguments), each
    bound sink holds exactly the automation's reported value after every operation. -/
theorem bindings_in_sync (ops : List Op) (W : World) (h : W.InSync) : (W.run ops).InSync :=
  World.run_invariant World.step_inSync ops W h

example :
    let W := World.run ⟨Automation.new (some ⟨0, 1⟩) .clip (some 0) 0, Sinks.empty⟩
      [.bind 3, .moveTo 4 2 (some 1) (1 / 2), .tick, .tick, .bind 5, .tick, .tick, .tick]
    W.auto.bindings = [3, 5] ∧ W.sinks 3 = some 1 ∧ W.sinks 5 = some 1 ∧ W.auto.current = 2 := by
  decide +kernel

example : (⟨Automation.new none .clip none 0, Sinks.empty⟩ : World).InSync := fun s hs => by
  simp [Automation.new] at hs

/-- After every tick the LFO's value lies in `[min, max]`, for every waveform bounded by 1 in absolute value
    (the code's `sin`), every frequency, tick rate and read time. -/
theorem lfo_in_range (w : Rat → Rat) (hw : ∀ x, -1 ≤ w x ∧ w x ≤ 1) (tpb : Nat) (l : LFO)
    (hs : l.started = true) (hm : l.min ≤ l.max) (n : Nat) :
    l.min ≤ (LFO.tickN w tpb (n + 1) l).value ∧ (LFO.tickN w tpb (n + 1) l).value ≤ l.max := by
  rw [LFO.tickN_value w tpb n l hs]
  exact scaleLinLin_bounds _ (-1) 1 _ _ (by norm_num) (hw _).1 (hw _).2 hm

/-- The LFO repeats: if `P` ticks are a whole number `k` of periods (`P · tick · frequency = k`, e.g.
    `P = tpb / frequency` ticks = `1 / frequency` beats), the value after `n + P` ticks equals the value after
    `n` ticks, for every waveform of period 1 (the code's `sin (2π ·)`). -/
theorem lfo_periodic (w : Rat → Rat) (hw : ∀ x, w (x + 1) = w x) (tpb : Nat) (l : LFO)
    (hs : l.started = true) (P k : Nat) (hP : (P : Rat) * (1 / (tpb : Rat)) * l.freq = (k : Rat)) (n : Nat) :
    (LFO.tickN w tpb (n + 1 + P) l).value = (LFO.tickN w tpb (n + 1) l).value := by
  rw [Nat.add_right_comm n 1 P, LFO.tickN_value w tpb (n + P) l hs, LFO.tickN_value w tpb n l hs]
  -- the argument of `w` after `P` more ticks is `P · tick · frequency = k` further on
  rw [Nat.add_right_comm n P 1, Nat.cast_add (n + 1) P, add_mul (_ : Rat) (P : Rat), ← add_assoc, add_mul, hP,
    periodic_add_nat w hw]

/-- Every bound attribute receives the LFO's new value on every tick. -/
theorem lfo_bindings_receive_value (w : Rat → Rat) (tpb : Nat) (l : LFO) (hs : l.started = true) :
    (l.tick w tpb).events = l.bindings.map (fun s => (⟨s, (l.tick w tpb).lfo.value⟩ : Event)) := by
  unfold LFO.tick
  rw [hs]
  rfl

/-- Reading the LFO as a pattern (`PLFO.__next__`) yields the LFO's current value. -/
theorem plfo_reads_value (l : LFO) : plfoNext l = l.value := rfl

-- non-vacuity: `squareWave` (IsobarV/Auto/Lemmas.lean) is a concrete waveform satisfying both hypotheses
example : ((List.range 9).map (fun n => (LFO.tickN squareWave 4 n { freq := 1, min := 2, max := 5 }).value))
    = [0, 5, 2, 2, 5, 5, 2, 2, 5] := by decide +kernel

example (n : Nat) : 2 ≤ (LFO.tickN squareWave 4 (n + 1) { freq := 1, min := 2, max := 5 }).value :=
  (lfo_in_range squareWave squareWave_bounded 4 { freq := 1, min := 2, max := 5 } rfl (by decide +kernel) n).1

example (n : Nat) : (LFO.tickN squareWave 4 (n + 1 + 4) { freq := 1, min := 2, max := 5 }).value
    = (LFO.tickN squareWave 4 (n + 1) { freq := 1, min := 2, max := 5 }).value :=
  lfo_periodic squareWave squareWave_periodic 4 { freq := 1, min := 2, max := 5 } rfl 4 1 (by norm_num) n

example : (({ freq := 1, bindings := [2, 4] } : LFO).tick squareWave 4).events = [⟨2, 1⟩, ⟨4, 1⟩] := by
  decide +kernel

end IsobarV.C18
