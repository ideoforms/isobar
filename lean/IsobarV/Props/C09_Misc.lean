/-
C09 — stickiness of StopIteration for the misc group.

`ClsSticky` (for ALL own states) holds for `PLSystem`, `PDict` (both forms), constants of patterns and tuples
containing patterns.  `PDictKey` over a PATTERN of dicts (register n0 = 0) is sticky: it ends with its dict or its
key.  `PDictKey` over a plain dict whose values are patterns is a selector (like `PArrayIndex`: with another key it
may yield again after an exhausted value) and is sticky in its key only (`dictKey_plain_key_final`); the lifting
theorem is instantiated with the state invariant "n0 = 0" on `dictKey` nodes (`sticky_stepF_I` of C09_Seq2).
-/
import IsobarV.Props.C09_Seq2
import IsobarV.Props.C10_Misc

namespace IsobarV.C09Misc
open IsobarV.Pat IsobarV.C09

theorem lsysScan_stop_pos (ts : List Char) : ∀ (pos : Nat) (s : Int) (stk : List Val),
    (lsysScan ts pos s stk).out = .stop → (lsysScan ts pos s stk).pos = pos + ts.length := by
  intro pos s stk h
  rcases C10Misc.lsystem_scan_turtle ts pos s stk with ⟨_, _, e⟩ | ⟨_, _, _, _, hne, _⟩
  · exact e
  · exact absurd h hne

/-- `PLSystem`: StopIteration means `pos` has reached the end of the string, where it stays (also with `loop=True`:
    the flag only reacts to rest tokens). -/
theorem lsystem_sticky : ClsSticky .lsystem := by
  intro P rec kids st hrec hk
  refine ⟨(Stepped.of_eq (stepLsystem_kids rec kids st)).sticky hrec hk, fun hs n o ho => ?_⟩
  have hc : clsStep .lsystem = stepLsystem := rfl
  obtain ⟨p, s, stk, e⟩ := stepLsystem_scan rec kids st
  rw [hc, e] at hs ho
  dsimp only at hs ho
  rw [C10Misc.lsystem_stopped rec kids n (lsysSt st _) ?_] at ho
  · exact .of_stop (List.eq_of_mem_replicate ho)
  · rw [lsysTokens_lsysSt, lsysSt_n2, lsysScan_stop_pos _ _ _ _ hs, List.length_drop]
    omega

theorem stepAll_dead {rec : Rec} (kids : List Pat) : ∀ (i : Nat), DeadAt rec kids i →
    (∃ o, (stepAll rec kids).fail = some o ∧ NoVal o) ∧ DeadAt rec (stepAll rec kids).kids i := by
  induction kids with
  | nil => intro i ⟨k, hk, _⟩; cases hk
  | cons k ks ih =>
    intro i h
    simp only [stepAll]
    cases i with
    | zero =>
      obtain ⟨k', hk', hd⟩ := h
      cases hk'
      split
      · next x hx => exact absurd hx (hd.step.1 _)
      · next xs hx => exact absurd hx (hd.step.1 _)
      · exact ⟨⟨_, rfl, hd.step.1⟩, (rec k).p, rfl, hd.step.2⟩
    | succ j =>
      have hj : DeadAt rec ks j := h
      split
      · exact ⟨(ih j hj).1, (ih j hj).2⟩
      · exact ⟨⟨_, rfl, noVal_err _⟩, hj⟩
      · next h1 h2 => exact ⟨⟨_, rfl, .of_ne h1 h2⟩, hj⟩

theorem stepAll_stop_dead {P : Pat → Prop} {rec : Rec} (hrec : RecSticky P rec) (kids : List Pat)
    (hk : ∀ k ∈ kids, P k) (hs : (stepAll rec kids).fail = some .stop) : ∃ i, DeadAt rec (stepAll rec kids).kids i := by
  induction kids with
  | nil => cases hs
  | cons k ks ih =>
    simp only [stepAll] at hs ⊢
    split at hs
    · obtain ⟨i, hd⟩ := ih (fun x hx => hk x (List.mem_cons_of_mem _ hx)) hs
      exact ⟨i + 1, hd⟩
    · cases hs
    · exact ⟨0, (rec k).p, rfl, (hrec k (hk k List.mem_cons_self)).2 (Option.some.inj hs)⟩

theorem tuple_sticky (c : Cls) (hc : clsStep c = stepTuple) : ClsSticky c := by
  intro P rec kids st hrec hk
  rw [hc]
  refine ⟨(stepTuple_stepped rec kids st).1.sticky hrec hk, fun hs n => ?_⟩
  have hfail : (stepAll rec kids).fail = some .stop := by
    simp only [stepTuple] at hs
    split at hs
    · next o ho => exact ho.trans (congrArg some hs)
    · cases hs
  refine clsOuts_noVal stepTuple rec (fun kids _ => ∃ i, DeadAt rec kids i) (fun kids st ⟨i, h⟩ => ?_) n _ _
    (stepTuple_kids rec kids st ▸ stepAll_stop_dead hrec kids hk hfail)
  obtain ⟨⟨o, ho, hn⟩, h2⟩ := stepAll_dead kids i h
  refine ⟨?_, i, stepTuple_kids rec kids st ▸ h2⟩
  simp only [stepTuple, ho]
  exact hn

/-- **`PDict`: StopIteration of any value ends the stream for good** (either constructor form). -/
theorem dict_sticky : ClsSticky .dict := tuple_sticky _ rfl
/-- A tuple containing patterns ends for good with the first of them that ends. -/
theorem tupP_sticky : ClsSticky .tupP := tuple_sticky _ rfl

/-- A constant of a pattern ends (as seen through `Pattern.value`) when the pattern does. -/
theorem constP_sticky : ClsSticky .constP := by
  intro P rec kids st hrec hk
  refine ⟨stepKid_P hrec kids 0 hk, fun hs n => ?_⟩
  exact clsOuts_noVal (clsStep .constP) rec (fun kids _ => DeadAt rec kids 0) (fun _ _ h => h.step) n _ _
    (stepKid_stop_dead hrec hk hs)

theorem dictLookup_ne_stop (keys : List Val) (xs : List Atom) (key : Val) : dictLookup keys xs key ≠ .stop := by
  unfold dictLookup
  (repeat' split) <;> nofun

/-- **`PDictKey` over a pattern of dicts ends for good with its dict or its key.** -/
theorem dictKey_sticky : ClsStickyI (fun st => st.n0 = 0) .dictKey := by
  intro P rec kids st hrec hk h0
  have hc : clsStep .dictKey = stepDictKey := rfl
  rw [hc]
  have hst : (stepDictKey rec kids st).st.n0 = 0 := by rw [(stepDictKey_stepped rec kids st).2]; exact h0
  refine ⟨hst, (stepDictKey_stepped rec kids st).1.sticky hrec hk, fun hs n => ?_⟩
  refine clsOuts_noVal stepDictKey rec (fun kids st => st.n0 = 0 ∧ (DeadAt rec kids 0 ∨ DeadAt rec kids 1)) ?_ n _ _ ⟨hst, ?_⟩
  · -- a dead key or dict keeps the lookup from yielding, and stays dead
    intro kids st ⟨h0, h⟩
    rcases h with h | h
    · have h1 : DeadAt rec (stepKid rec kids 1).2 0 := h.other (by decide)
      rcases Out.val_or_noVal (stepKid rec kids 1).1 with ⟨d, hd⟩ | hd
      · rw [stepDictKey_key_fail h0 hd h1.step.1]; exact ⟨h1.step.1, h0, .inl h1.step.2⟩
      · rw [stepDictKey_dict_fail h0 hd]; exact ⟨hd, h0, .inl h1⟩
    · rw [stepDictKey_dict_fail h0 h.step.1]; exact ⟨h.step.1, h0, .inr h.step.2⟩
  · -- StopIteration comes from the dict or from the key, never from the lookup
    rcases Out.val_or_noVal (stepKid rec kids 1).1 with ⟨d, hd⟩ | hd
    · rcases Out.val_or_noVal (stepKid rec (stepKid rec kids 1).2 0).1 with ⟨key, hkey⟩ | hkey
      · rw [stepDictKey_vals h0 hd hkey] at hs
        cases d with
        | a _ => cases hs
        | tup xs => exact absurd hs (dictLookup_ne_stop _ _ _)
      · rw [stepDictKey_key_fail h0 hd hkey] at hs ⊢
        exact .inl (stepKid_stop_dead hrec (stepKid_P hrec kids 1 hk) hs)
    · rw [stepDictKey_dict_fail h0 hd] at hs ⊢
      exact .inr (stepKid_stop_dead hrec hk hs)

/-- `PDictKey` over a plain dict: once the KEY pattern has ended no later step yields a value (the values of the
    dict are selected by the key: an exhausted value does not end the lookup, by design). -/
theorem dictKey_plain_key_final (rec : Rec) (kids : List Pat) (st : St) (h1 : st.n0 ≠ 0) (hd : DeadAt rec kids 0) :
    ∀ n, ∀ o ∈ clsOuts stepDictKey rec n kids st, NoVal o := by
  intro n
  refine clsOuts_noVal stepDictKey rec (fun kids st => st.n0 ≠ 0 ∧ DeadAt rec kids 0) ?_ n _ _ ⟨h1, hd⟩
  intro kids st ⟨h1, hd⟩
  rw [stepDictKey_plain_key_fail h1 hd.step.1]
  exact ⟨hd.step.1, h1, hd.step.2⟩

/-- Classes of this group that are sticky for all own states. -/
def MiscSticky (c : Cls) : Prop := c = .lsystem ∨ c = .dict ∨ c = .constP ∨ c = .tupP

theorem misc_sticky (c : Cls) (h : MiscSticky c) : ClsSticky c := by
  unfold MiscSticky at h
  rcases h with h | h | h | h <;> subst h
  · exact lsystem_sticky
  · exact dict_sticky
  · exact constP_sticky
  · exact tupP_sticky

/-- State invariant of this group: a `dictKey` node looks up a PATTERN of dicts. -/
def miscInv (c : Cls) (st : St) : Prop := c = .dictKey → st.n0 = 0

theorem misc_stickyI (c : Cls) (h : c = .dictKey ∨ MiscSticky c ∨ StickyCore c) : ClsStickyI (miscInv c) c := by
  rcases h with rfl | h
  · intro P rec kids st hrec hk hinv
    obtain ⟨a, b⟩ := dictKey_sticky P rec kids st hrec hk (hinv rfl)
    exact ⟨fun _ => a, b⟩
  · have hne : c ≠ .dictKey := by
      rintro rfl
      revert h
      unfold MiscSticky StickyCore
      decide
    intro P rec kids st hrec hk _
    exact ⟨fun hc => absurd hc hne, h.elim (misc_sticky c) (core_sticky c) P rec kids st hrec hk⟩

/-- **C09 for the misc group**: in any expression built from L-systems, dicts (either form), key lookups in a
    pattern of dicts, constants of patterns, tuples containing patterns and the sticky core classes, nested to any
    depth, once `next()` has raised StopIteration no later `next()` yields a value. -/
theorem sticky_misc (fuel : Nat) (p : Pat)
    (hp : AllNodes (fun c => c = .dictKey ∨ MiscSticky c ∨ StickyCore c) miscInv p)
    (hstop : (stepF fuel p).out = .stop) : ∀ n, ∀ o ∈ outs fuel n (stepF fuel p).p, NoVal o :=
  (sticky_stepF_I misc_stickyI fuel p hp).2 hstop

section Example
def cI (i : Int) : Pat := Pat.const (.int i)
def sqI (xs : List Int) (rep : Int) : Pat := .node .seq (xs.map cI) { n0 := rep }
/-- `PDictKey(PDict({"a": PSequence([1, 2], 1), "b": PLSystem("N+N", 2, True)}), "b")` -/
def ex : Pat := .node .dictKey [Pat.const (.str "b"),
  .node .dict [sqI [1, 2] 1, .node .lsystem [] { v0 := .str "N+N", n0 := 2, n1 := 1 }] { buf := [.str "a", .str "b"] }]
  { n0 := 0, buf := [.str "a", .str "b"] }
example : outs 10 5 ex = [.val (.int 0), .val (.int 1), .stop, .stop, .stop] := by decide +kernel
example : outs 10 7 (.node .lsystem [] { v0 := .str "N+N", n0 := 2, n1 := 1 }) =
    [.val (.int 0), .val (.int 1), .val (.int 2), .val (.int 3), .stop, .stop, .stop] := by decide +kernel
example : (nextn 10 9 ex).vals = [.int 0, .int 1] ∧ (len 10 100 ex).1 = some 2 := by decide +kernel
/-- the plain-dict form is a selector: `PDictKey({"a": PSequence([1], 1), "b": 7}, PSequence(["a", "a", "b"]))` -/
example : outs 10 4 (.node .dictKey [.node .seq [Pat.const (.str "a"), Pat.const (.str "a"), Pat.const (.str "b")] { n0 := -1 },
    sqI [1] 1, cI 7] { n0 := 1, buf := [.str "a", .str "b"] }) = [.val (.int 1), .stop, .val (.int 7), .stop] := by decide +kernel
end Example

end IsobarV.C09Misc
