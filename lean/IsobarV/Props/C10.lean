/-
C10 — deterministic library patterns match their reference definitions.

Reference theorems are stated per class, parametric in the semantics `rec` of the sub-patterns (so they
hold on nested combinations).  Core classes here; the class groups add `IsobarV/Props/C10_*.lean`.
-/
import IsobarV.Pat.Streams

namespace IsobarV.C10
open IsobarV.Pat

/-- `PConstant(v)`: the constant sequence. -/
theorem const_reference (rec : Rec) (v : Val) (n : Nat) (kids : List Pat) (st : St) (h : st.v0 = v) :
    clsOuts stepConst rec n kids st = List.replicate n (.val v) :=
  clsOuts_fixed (h ▸ rfl) n

/-- `abs` / `int` map their input pointwise while it yields values (a rest stays a rest). -/
theorem un_reference (f : Val → Out) (rec : Rec) (n : Nat) (a : Pat) (st : St) (as : List Val)
    (ha : recOuts rec n a = as.map Out.val) :
    clsOuts (stepUn f) rec n [a] st = as.map f := by
  induction n generalizing a as with
  | zero => cases as <;> simp_all [recOuts, clsOuts]
  | succ n ih =>
    cases as with
    | nil => simp [recOuts] at ha
    | cons x as =>
      simp only [recOuts, List.map_cons, List.cons.injEq] at ha
      have h1 : (stepUn f rec [a] st).out = f x := by simp [stepUn, stepKid, ha.1]
      have h2 : (stepUn f rec [a] st).kids = [(rec a).p] := by simp [stepUn, stepKid, ha.1]
      have h3 : (stepUn f rec [a] st).st = st := by simp only [stepUn]; split <;> rfl
      simp only [clsOuts, List.map_cons, h1, h2, h3]
      rw [ih _ as ha.2]

example : clsOuts (stepUn absVal) (stepF 5) 3 [.node .seq [Pat.const (.int (-2)), Pat.const Val.none] { n0 := -1 }] {} =
    [.val (.int 2), .val Val.none, .val (.int 2)] := by decide

end IsobarV.C10
