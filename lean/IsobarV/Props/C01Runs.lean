/-
C01 in a multi-track run: the closed form of the onsets holds for a track as it plays inside a timeline
with any number of other tracks, for every run length.

`C01.onset_closed_form` is about the clock part of `Track.tick` iterated on one track; `C07.run_is_merge`
shows that in a timeline whose tracks do not call the timeline API every track follows its own trajectory.
Here the two are joined: the onset invariant is carried along the trajectory (`alone_onsetInv`), so the
state of the track found in the timeline after `j` ticks satisfies it, and the event performed in tick
`j` is given by the closed form (`onset_in_a_multitrack_run`).
-/
import IsobarV.Props.C01
import IsobarV.Props.C07Runs

namespace IsobarV.C01
open IsobarV.Sched IsobarV.C07

/-- The pull loop touches neither `started` nor `finished`. -/
theorem pullLoop_started (W : World) (q fuel : Nat) (t : Track) (last : Pull) :
    (Track.pullLoop W q fuel t last).t.started = t.started ∧ (Track.pullLoop W q fuel t last).t.finished = t.finished := by
  obtain ⟨_, _, _, h⟩ := pullLoop_frame W q fuel t last
  rw [h]; exact ⟨rfl, rfl⟩

theorem soloTick_onsetInv {W : World} {q sid c p0 : Nat} {N : Int} {d : Nat → Nat} {j : Nat} {t : Track}
    (hd : ∀ i, q ≤ d i) (hW : HasDurs W sid d) (hinv : OnsetInv q sid c p0 N d j t)
    (hs : t.started = true) (hfin : t.finished = false) (hok : (soloTick W q t).out = .ok) :
    OnsetInv q sid c p0 N d (j + 1) (soloTick W q t).t ∧ (soloTick W q t).t.started = true ∧
    (soloTick W q t).t.finished = false := by
  obtain ⟨⟨k1, k2, k3, k4, k5, k6, k7⟩, hfired⟩ := onset_step hd hW hinv
  -- the clock fields are those of `clockTick`; a tick never touches `maxCount` and `started`
  have hclk := solo_clock W q t hs hok
  simp only [clockOf, Prod.mk.injEq] at hclk
  obtain ⟨c1, c2, c3, c4, _⟩ := hclk
  obtain ⟨_, _, _, _, _, _, hfr⟩ := soloTick_frame W q t
  have hmax : (soloTick W q t).t.maxCount = 0 := by rw [hfr]; exact hinv.maxc
  have hst : (soloTick W q t).t.started = true := by rw [hfr]; exact hs
  -- `finished` could only be set by a StopIteration, but a due tick of an endless stream performs an event
  have hnf : (soloTick W q t).t.finished = false := by
    rw [soloTick, if_neg (by rw [hs]; exact Bool.noConfusion)]
    split
    · rename_i hdue
      obtain ⟨os, f, cu, he, hf, _⟩ := soloAfterPull_frame q (Track.pullLoop W q (t.fuel q) t .stop)
      rw [he]
      rcases hf with rfl | hr
      · exact (pullLoop_started W q (t.fuel q) t .stop).2.trans hfin
      · rw [fired, if_pos hdue, hr, if_pos (show t.nxt ≤ tm q t.cur from hdue)] at hfired
        cases hfired
    · exact hfin
  exact ⟨⟨c1 ▸ k1, c3 ▸ k2, by rw [c2, c3]; exact k3, by rw [c1, c2]; exact k4, c4 ▸ k5, hmax, c3 ▸ k7⟩, hst, hnf⟩

theorem alone_onsetInv {W : World} (hP : PosDur W) (hF : Faultless W) {sid c p0 : Nat} {N : Int} {d : Nat → Nat}
    (f : Frame) (hact : f.actions = []) (hd : ∀ i, f.q ≤ d i) (hW : HasDurs W sid d) (t : Track)
    (h0 : OnsetInv f.q sid c p0 N d 0 t) (hs : t.started = true) (hfin : t.finished = false) (j : Nat) :
    ∃ u, alone W f j t = some u ∧ OnsetInv f.q sid c p0 N d j u ∧ u.started = true ∧ u.finished = false ∧ u.id = t.id := by
  induction j with
  | zero => exact ⟨t, rfl, h0, hs, hfin, rfl⟩
  | succ n ih =>
    obtain ⟨u, hu, hinv, hus, huf, hid⟩ := ih
    have hq : (f.after n).q = f.q := Frame.after_q f n
    -- no start is pending: preparing the track only releases note-offs
    have hprep : prep (f.after n) u = u.processOffs f.q := by
      rw [prep, Frame.after_actions_nil f hact n, hq]; rfl
    have hok := soloTick_ok hP hF f.q (u.processOffs f.q)
    obtain ⟨s1, s2, s3⟩ := soloTick_onsetInv hd hW (t := u.processOffs f.q)
      ⟨hinv.cur, hinv.pos, hinv.nxt, hinv.guard, hinv.sid, hinv.maxc, hinv.past⟩ hus huf hok
    refine ⟨(soloTick W f.q (u.processOffs f.q)).t, ?_, s1, s2, s3, (soloTick_id ..).trans hid⟩
    rw [alone, hu, Option.bind_some, trackNext, survivor, hprep, hq, if_pos ⟨hok, fun h => by rw [s3] at h; cases h.1⟩]

/-- **The closed form in a multi-track run.**  In a timeline of any number of tracks without action callbacks
    (fault-free world, no start pending, stop-when-done off), a playing track `t` of the timeline whose
    stream has the durations `d` (each at least a tick) and whose next event is not overdue by a whole tick
    is, after `j` ticks of the TIMELINE, still in the timeline, and the event it performs in the next tick
    is event `k` iff tick `t.cur + j` is the first tick at or after the exact ideal time of event `k` —
    for every `j` and `k`, whatever the other tracks are and do. -/
theorem onset_in_a_multitrack_run (W : World) (hW : NoActions W) (hP : PosDur W) (hF : Faultless W) (tl : TL)
    (hnd : (tl.tracks.map Track.id).Nodup) (hs : tl.stopWhenDone = false) (hact : tl.actions = [])
    (t : Track) (ht : t ∈ tl.tracks) (d : Nat → Nat) (hd : ∀ i, tl.q ≤ d i) (hdur : HasDurs W t.sid d)
    (hmax : t.maxCount = 0) (hguard : tm tl.q t.cur - tl.q < t.nxt) (hst : t.started = true) (hfin : t.finished = false)
    (j : Nat) :
    ∃ u ∈ (ticks W j tl).tracks, u.id = t.id ∧
      ∀ k, fired W tl.q u = some k ↔ (t.pos ≤ k ∧ FirstTick tl.q (t.nxt + ((S d k : Int) - S d t.pos)) (t.cur + j)) := by
  obtain ⟨h1, _, _⟩ := run_is_merge W hW hP tl hnd (Or.inr hF) hs j
  have h0 := onsetInv_init tl.q d t hmax hguard
  obtain ⟨u, hu, hinv, _, _, hid⟩ := alone_onsetInv (W := W) hP hF (frameOf tl) hact hd hdur t h0 hst hfin j
  refine ⟨u, ?_, hid, fun k => fired_iff_of_inv hd hdur hinv k⟩
  rw [h1, stateAfter_tracks]
  exact List.mem_filterMap.mpr ⟨t, ht, hu⟩

/-! Non-vacuity: two tracks of the endless 7-unit stream of `C01.exW` (3 units per tick), the second one behind
    by a tick; every hypothesis of the theorem holds and the conclusion is instantiated for the second track. -/
section Example

theorem exW_noActions : NoActions exW := by intro sid pos d a ops out h; simp [exW] at h
theorem exW_posDur : PosDur exW := by
  intro sid pos d a k h
  simp only [exW, Option.some.injEq, Item.ev.injEq] at h
  omega
theorem exW_faultless : Faultless exW := by
  refine ⟨fun _ _ h => (by cases h), fun _ _ h => (by cases h), ?_, fun _ _ _ _ _ _ _ h => (by cases h),
    fun _ _ _ _ _ _ h => (by cases h)⟩
  intro sid pos d a vs h v hv
  cases h
  rw [List.mem_singleton.mp hv]

def exTrack (id cur : Nat) : Track :=
  { (newTrack id none 0 true) with started := true, sid := 0, cur := cur, nxt := (cur * 3 : Nat) }
def exTL : TL := { q := 3, tracks := [exTrack 0 0, exTrack 1 1] }

example (j : Nat) : ∃ u ∈ (ticks exW j exTL).tracks, u.id = 1 ∧
    ∀ k, fired exW 3 u = some k ↔ (0 ≤ k ∧ FirstTick 3 (3 + ((S (fun _ => 7) k : Int) - S (fun _ => 7) 0)) (1 + j)) :=
  onset_in_a_multitrack_run exW exW_noActions exW_posDur exW_faultless exTL (by decide) rfl rfl (exTrack 1 1)
    (by simp [exTL]) (fun _ => 7) (by intro i; decide) (by intro i; exact ⟨_, _, rfl⟩) rfl (by decide) rfl rfl j

end Example

end IsobarV.C01
