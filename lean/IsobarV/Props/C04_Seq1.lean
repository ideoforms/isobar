/-
C04 — `reset()` rewinds any pattern: reset-correctness of PSeries, PRange, PGeom, PImpulse, PLoop, PPingPong,
PStutter, PSubsequence, PCreep (models: `IsobarV/Pat/Cls/Seq1.lean`, after the fix patches that add the missing
`reset()` of PStutter, clear PSubsequence's cache and make PCreep's reset independent of its input).

Each lemma says: whatever the sub-patterns do (any `rec` that is invisible to `reset`), one step of the class
leaves `reset` of its kids unchanged, and the class's own reset maps the state after the step to the same state
as before the step — i.e. every register the step writes is one the reset overwrites with a constant or with an
immutable register (`start`, `count`, `length`, PPingPong's `values`).
-/
import IsobarV.Props.C04
import IsobarV.Pat.Cls.Seq1Lemmas

namespace IsobarV.C04Seq1
open IsobarV.Pat

theorem series_ok : ClsResetOK .series := .of_step stepSeries_stepped
theorem range_ok : ClsResetOK .range := .of_step stepRange_stepped
theorem geom_ok : ClsResetOK .geom := .of_step stepGeom_stepped
theorem impulse_ok : ClsResetOK .impulse := .of_step stepImpulse_stepped
theorem loop_ok : ClsResetOK .loop := .of_step stepLoop_stepped
theorem pingPong_ok : ClsResetOK .pingPong := .of_step stepPingPong_stepped
theorem stutter_ok : ClsResetOK .stutter := .of_step stepStutter_stepped
theorem subsequence_ok : ClsResetOK .subsequence := .of_step stepSubsequence_stepped
theorem creep_ok : ClsResetOK .creep := .of_step stepCreep_stepped

def Seq1Cls (c : Cls) : Prop :=
  c = .series ∨ c = .range ∨ c = .geom ∨ c = .impulse ∨ c = .loop ∨ c = .pingPong ∨ c = .stutter ∨
  c = .subsequence ∨ c = .creep

theorem seq1_ok : ∀ c, Seq1Cls c ∨ C04.CoreCls c → ClsResetOK c := by
  rintro c ((rfl | rfl | rfl | rfl | rfl | rfl | rfl | rfl | rfl) | h)
  · exact series_ok
  · exact range_ok
  · exact geom_ok
  · exact impulse_ok
  · exact loop_ok
  · exact pingPong_ok
  · exact stutter_ok
  · exact subsequence_ok
  · exact creep_ok
  · exact C04.core_ok c h

/-- **C04 for this group together with the core classes**: any expression built from them, nested to any
    depth, is rewound by `reset()` after any number of steps. -/
theorem reset_rewinds_seq1 (fuel k : Nat) (p0 : Pat) (hp : AllCls (fun c => Seq1Cls c ∨ C04.CoreCls c) p0)
    (h0 : IsInit p0) : reset (after fuel k p0) = p0 :=
  reset_rewinds seq1_ok fuel k p0 hp h0

theorem all_rewinds_seq1 (fuel maximum : Nat) (p0 : Pat) (hp : AllCls (fun c => Seq1Cls c ∨ C04.CoreCls c) p0)
    (h0 : IsInit p0) (hok : (nextn fuel maximum p0).err = Option.none) : (all fuel maximum p0).p = p0 :=
  all_rewinds seq1_ok fuel maximum p0 hp h0 hok

/-! Non-vacuity: a stutter of a subsequence of a looped series, consumed past several windows, then reset. -/
section Example
def c (i : Int) : Pat := Pat.const (.int i)
def ser : Pat := .node .series [c 4, c 3] { v0 := .int 10, v1 := .int 10 }
def ex : Pat :=
  .node .stutter [.node .subsequence [.node .loop [ser] { n0 := 3 }, c 2, c 7] {}, c 2] { v0 := .int 0, v1 := .int 0 }
example : IsInit ex := by unfold IsInit; rfl
example : outs 10 6 ex = [.val (.int 16), .val (.int 16), .val (.int 19), .val (.int 19), .val (.int 10), .val (.int 10)] := by
  decide +kernel
example : reset (after 10 5 ex) = ex := by rfl
example : outs 10 3 (reset (after 10 5 ex)) = [.val (.int 16), .val (.int 16), .val (.int 19)] := by decide +kernel
example : AllCls (fun c => Seq1Cls c ∨ C04.CoreCls c) ex := by
  have hc : ∀ i, AllCls (fun c => Seq1Cls c ∨ C04.CoreCls c) (c i) := fun i => .node (by simp [C04.CoreCls]) (by simp)
  simp only [ex, ser, allCls_node, List.forall_mem_cons, hc]
  simp [Seq1Cls]
end Example

end IsobarV.C04Seq1
