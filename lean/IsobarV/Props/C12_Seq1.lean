/-
C12 — pattern-valued parameters are resolved afresh at every step: consumption lemmas for the pattern-valued
parameters of PSeries (length, step), PRange (end, step), PGeom (multiply), PImpulse (period), PStutter (count,
once per block), PSubsequence (offset, length) and PCreep (length, creep, repeats, prob).

Each lemma: after a step that yields a value, the parameter kid is exactly one `rec`-step further (`(rec k).p`):
it was read, once.  Stated for an arbitrary semantics `rec` of the parameter patterns and arbitrary own state.
(`PGeom.length` and `PLoop.count` are plain attributes of the real classes, never resolved: not parameters.)
-/
import IsobarV.Pat.Cls.Seq1Lemmas

namespace IsobarV.C12Seq1
open IsobarV.Pat

/-- **PSeries**: a step that yields a value has read `length` once and `step` once (`length` first: `stepSeries_cases`). -/
theorem series_params_once (rec : Rec) (len stp : Pat) (st : St) (v : Val)
    (h : (stepSeries rec [len, stp] st).out = .val v) :
    (stepSeries rec [len, stp] st).kids = [(rec len).p, (rec stp).p] :=
  ((stepSeries_cases rec _ st).resolve_left fun h' => h'.2.1 v h).1

/-- PSeries reads `length` on EVERY call, also on the one that ends the series. -/
theorem series_length_every_call (rec : Rec) (len stp : Pat) (st : St) :
    ∃ s, (stepSeries rec [len, stp] st).kids = [(rec len).p, s] := by
  rcases stepSeries_cases rec [len, stp] st with h | h <;> exact ⟨_, h.1.trans rfl⟩

/-- **PRange**: a step that yields a value has read `end` once and `step` once (`end` first: `stepRange_cases`). -/
theorem range_params_once (rec : Rec) (e d : Pat) (st : St) (v : Val)
    (h : (stepRange rec [e, d] st).out = .val v) :
    (stepRange rec [e, d] st).kids = [(rec e).p, (rec d).p] :=
  (stepRange_cases rec _ st).resolve_left fun h' => h'.2 v h

/-- **PGeom**: a step that yields a value has read `multiply` once. -/
theorem geom_multiply_once (rec : Rec) (m : Pat) (st : St) (v : Val)
    (h : (stepGeom rec [m] st).out = .val v) : (stepGeom rec [m] st).kids = [(rec m).p] :=
  ((stepGeom_cases rec _ st).resolve_left fun h' => by rw [h'] at h; cases h).1

/-- **PImpulse**: every step that yields a value has read `period` once. -/
theorem impulse_period_once (rec : Rec) (p : Pat) (st : St) (v : Val)
    (h : (stepImpulse rec [p] st).out = .val v) : (stepImpulse rec [p] st).kids = [(rec p).p] :=
  have _ := h  -- not needed (`period` is read on every step); named here for the unused-variable linter
  (stepImpulse_kids rec _ st).1

/-- **PStutter is block-wise**: when the held value has been played `count_current` times a step that yields
    a value reads `count` once and the input once, and `count_current` becomes the value read (under `h` the `match`
    is in its `.val` branch) … -/
theorem stutter_count_once_per_block (rec : Rec) (inp cnt : Pat) (st : St) (v : Val)
    (hb : numCmp .ge (Val.int st.n0) st.v1 = some true)
    (h : (stepStutter rec [inp, cnt] st).out = .val v) :
    (stepStutter rec [inp, cnt] st).kids = [(rec inp).p, (rec cnt).p] ∧
    (stepStutter rec [inp, cnt] st).st.v1 = match (rec cnt).out with | .val c => c | _ => st.v1 := by
  rcases stepStutter_block (rec := rec) (kids := [inp, cnt]) hb with ⟨c, x, hc, -, hs⟩ | ⟨hn, -⟩
  · have hc' : (rec cnt).out = .val c := hc
    rw [hs, hc']
    exact ⟨rfl, rfl⟩
  · exact absurd h (hn v)

/-- … and inside a block neither `count` nor the input is touched. -/
theorem stutter_count_untouched_in_block (rec : Rec) (inp cnt : Pat) (st : St)
    (hb : numCmp .ge (Val.int st.n0) st.v1 = some false) :
    (stepStutter rec [inp, cnt] st).kids = [inp, cnt] ∧ (stepStutter rec [inp, cnt] st).out = .val st.v0 := by
  simp [stepStutter, hb]

/-- **PSubsequence**: every step that yields a value has read `offset` once and `length` once (`offset` first:
    `stepSubsequence_cases`; the input is read as often as the window requires). -/
theorem subsequence_params_once (rec : Rec) (inp off len : Pat) (st : St) (v : Val)
    (h : (stepSubsequence rec [inp, off, len] st).out = .val v) :
    ∃ inp', (stepSubsequence rec [inp, off, len] st).kids = [inp', (rec off).p, (rec len).p] := by
  rcases stepSubsequence_cases rec [inp, off, len] st with ⟨o, -, he⟩ | ⟨hn, -⟩
  · rw [he, subEmit_same.1]
    exact (fillBuf_stepped ..).tail
  · exact absurd h (hn v)

/-- **PCreep**: a step that yields a value has read `length`, `creep`, `repeats` and `prob` once each (in that order:
    `stepKidsSeq_val`; the input is read as often as filling and creeping require). -/
theorem creep_params_once (rec : Rec) (inp l c r p : Pat) (st : St) (v : Val)
    (h : (stepCreep rec [inp, l, c, r, p] st).out = .val v) :
    ∃ inp', (stepCreep rec [inp, l, c, r, p] st).kids = [inp', (rec l).p, (rec c).p, (rec r).p, (rec p).p] := by
  have hk := (stepCreep_input rec [inp, l, c, r, p] st).1
  rcases stepCreep_cases rec [inp, l, c, r, p] st rfl with ⟨x, _, _, _, _, hx, -, -⟩ | ⟨hn, -⟩
  · rw [stepKidsSeq_val hx] at hk; exact hk.tail
  · exact absurd h (hn v)

/-! Non-vacuity: varying parameter streams, consumed one value per use. -/
section Example
def c (i : Int) : Pat := Pat.const (.int i)
def sq (xs : List Int) : Pat := .node .seq (xs.map c) { n0 := -1 }
def sqAt (xs : List Int) (pos : Int) : Pat := .node .seq (xs.map c) { n0 := -1, n1 := pos }

example : clsOuts stepSeries (stepF 5) 5 [c 5, sq [1, 10]] { v0 := .int 0, v1 := .int 0 } =
    [.val (.int 0), .val (.int 1), .val (.int 11), .val (.int 12), .val (.int 22)] := by decide +kernel
example : (stepSeries (stepF 5) [c 5, sq [1, 10]] { v0 := .int 0, v1 := .int 0 }).kids = [c 5, sqAt [1, 10] 1] := by rfl
example : clsOuts stepStutter (stepF 5) 6 [sq [7, 8, 9], sq [1, 3]] { v0 := .int 0, v1 := .int 0 } =
    [.val (.int 7), .val (.int 8), .val (.int 8), .val (.int 8), .val (.int 9), .val (.int 7)] := by decide +kernel
example : clsOuts stepSubsequence (stepF 5) 4 [sq [0, 1, 2, 3, 4, 5], sq [0, 2], c 3] {} =
    [.val (.int 0), .val (.int 3), .val (.int 2), .stop] := by decide +kernel
example : clsOuts stepCreep (stepF 5) 8 [sq [0, 1, 2, 3, 4, 5], c 2, sq [1, 2], c 2, c 1] { n1 := 1 } =
    [.val (.int 0), .val (.int 1), .val (.int 0), .val (.int 1), .val (.int 1), .val (.int 2), .val (.int 1), .val (.int 2)] := by
  decide +kernel
end Example

end IsobarV.C12Seq1
