/-
C12 (re-targeting a reference takes effect from the very next step; a varying pattern is consumed one value per
use, in order) and C07 (a globals read returns the latest value set, or the default) for the BY-NAME reference:
`PGlobals(name)` over `Globals` holding scalars and patterns (`Static/Model.lean`, `GEnv`).  The harness drives the
real `Globals` / `PGlobals` and this model with the same set / read sequences (`driver static`: gset / gget).
-/
import IsobarV.Static.Model

namespace IsobarV.C12
open IsobarV.Static

theorem lookup_cons (e : GEnv) (k k' : String) (v : GVal) :
    GEnv.lookup ((k, v) :: e) k' = bif k == k' then some v else e.lookup k' := by
  rw [GEnv.lookup, List.find?_cons]
  cases k == k' <;> rfl

@[simp] theorem lookup_set_same (e : GEnv) (k : String) (v : GVal) : (e.set k v).lookup k = some v := by
  rw [GEnv.set, lookup_cons, beq_self_eq_true]; rfl

theorem lookup_set_other (e : GEnv) (k k' : String) (v : GVal) (h : k' ≠ k) : (e.set k v).lookup k' = e.lookup k' := by
  rw [GEnv.set, lookup_cons, beq_eq_false_iff_ne.mpr h.symm]; rfl

/-- **A globals read returns the latest value set** (scalar target) and leaves the environment alone … -/
theorem read_after_set_scalar (e : GEnv) (k v : String) :
    (e.set k (.scalar v)).read k = (some v, e.set k (.scalar v)) := by
  simp [GEnv.read]

/-- … **or the default** when the name was never set. -/
theorem read_unset_is_default (e : GEnv) (k : String) (h : e.lookup k = none) : e.read k = (none, e) := by
  simp [GEnv.read, h]

/-- **Re-targeting takes effect from the very next step**: after `Globals.set(k, pattern)` the next read of `k` is the
    new pattern's FIRST value — whatever `k` held before and however far that had been read. -/
theorem retarget_next_step (e : GEnv) (k : String) (a : String) (rest : List String) :
    ((e.set k (.seq (a :: rest) 0)).read k).1 = some a := by
  simp [GEnv.read]

theorem read_seq (e : GEnv) (k : String) (vals : List String) (pos : Nat) (hv : vals ≠ [])
    (h : e.lookup k = some (.seq vals pos)) :
    (e.read k).1 = vals[pos % vals.length]? ∧ (e.read k).2.lookup k = some (.seq vals (pos + 1)) := by
  cases vals with
  | nil => exact absurd rfl hv
  | cons a r => rw [GEnv.read, h]; exact ⟨rfl, lookup_set_same e k _⟩

/-- **One value per read, in order, never skipped and never read twice**: `n` successive reads of a name that holds a
    pattern at position `pos` deliver its elements `pos, pos + 1, …` (cyclically), whoever reads. -/
theorem reads_walk_the_pattern (k : String) (vals : List String) (hv : vals ≠ []) (n : Nat) :
    ∀ (e : GEnv) (pos : Nat), e.lookup k = some (.seq vals pos) →
      (e.reads k n).1 = (List.range n).map (fun i => vals[(pos + i) % vals.length]?) ∧
      (e.reads k n).2.lookup k = some (.seq vals (pos + n)) := by
  induction n with
  | zero => intro e pos h; exact ⟨rfl, h⟩
  | succ n ih =>
    intro e pos h
    obtain ⟨h1, h2⟩ := read_seq e k vals pos hv h
    obtain ⟨i1, i2⟩ := ih (e.read k).2 (pos + 1) h2
    simp only [Nat.add_assoc, Nat.add_comm 1] at i1 i2
    refine ⟨?_, i2⟩
    show (e.read k).1 :: ((e.read k).2.reads k n).1 = _
    rw [i1, h1, List.range_succ_eq_map, List.map_cons, List.map_map]
    rfl

/-- … in particular right after a re-target: the new pattern from its start. -/
theorem reads_after_retarget (e : GEnv) (k : String) (vals : List String) (hv : vals ≠ []) (n : Nat) :
    ((e.set k (.seq vals 0)).reads k n).1 = (List.range n).map (fun i => vals[i % vals.length]?) := by
  rw [(reads_walk_the_pattern k vals hv n _ 0 (lookup_set_same e k _)).1]
  simp only [Nat.zero_add]

/-- **Names do not interfere**: reading (and thereby advancing) one name changes no other name's target. -/
theorem read_other_untouched (e : GEnv) (k k' : String) (h : k' ≠ k) : (e.read k).2.lookup k' = e.lookup k' := by
  unfold GEnv.read
  split
  · rfl
  · rfl
  · split
    · rfl
    · exact lookup_set_other e k k' _ h

example : (GEnv.reads (GEnv.set [] "a" (.seq ["1", "2", "3"] 0)) "a" 4).1 = [some "1", some "2", some "3", some "1"] := by
  decide +kernel
example : (GEnv.reads (GEnv.set (GEnv.reads (GEnv.set [] "a" (.seq ["1", "2", "3"] 0)) "a" 2).2 "a" (.seq ["9", "8"] 0)) "a" 3).1 =
    [some "9", some "8", some "9"] := by decide +kernel

end IsobarV.C12
