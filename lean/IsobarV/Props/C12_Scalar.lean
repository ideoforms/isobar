/-
C12 — pattern-valued parameters of the classes of `scalar.py`, `PDegree`, `PTri`, `PSaw` are resolved afresh
at every step: after a step that yields a value each attribute the class resolves is exactly ONE `rec`-step
further (one value consumed per output step, never skipped, never read twice), for an arbitrary semantics
`rec` of the attributes — hence for scalars, constants, references and varying patterns alike, at every nesting
depth.  All instances of `poll_param_once` (`IsobarV/Pat/Cls/ScalarLemmas.lean`).
-/
import IsobarV.Pat.Cls.ScalarLemmas

namespace IsobarV.C12
open IsobarV.Pat

/-- Classes that resolve their arguments first and their input last resolve every kid. -/
theorem argsFirst_once (f : St → List Val → FRes) (rec : Rec) (kids : List Pat) (st : St) (v : Val)
    (h : (stepPoll ordArgsFirst f rec kids st).out = .val v) (i : Nat) (k : Pat) (hk : kids[i]? = some k) :
    (stepPoll ordArgsFirst f rec kids st).kids[i]? = some (rec k).p :=
  poll_param_once _ _ ordArgsFirst_nodup rec kids st v h i k
    (mem_ordArgsFirst _ _ (List.getElem?_eq_some_iff.mp hk).1) hk

/-- Classes that resolve the kids `0 … m - 1` in index order. -/
theorem inOrder_once (m : Nat) (f : St → List Val → FRes) (rec : Rec) (kids : List Pat) (st : St) (v : Val)
    (h : (stepPoll (fun _ => List.range m) f rec kids st).out = .val v) (i : Nat) (hi : i < m) (k : Pat)
    (hk : kids[i]? = some k) : (stepPoll (fun _ => List.range m) f rec kids st).kids[i]? = some (rec k).p :=
  poll_param_once _ _ (fun _ => List.nodup_range) rec kids st v h i k (List.mem_range.mpr hi) hk

/-- `PSkipIf.skip`. -/
theorem skipIf_skip_once (rec : Rec) (kids : List Pat) (st : St) (v : Val)
    (h : (stepSkipIf rec kids st).out = .val v) (k : Pat) (hk : kids[1]? = some k) :
    (stepSkipIf rec kids st).kids[1]? = some (rec k).p :=
  inOrder_once 2 _ rec kids st v h 1 (by decide) k hk

/-- `PMap`: every positional / keyword argument (index ≥ 1) and the input (index 0). -/
theorem map_arg_once (rec : Rec) (kids : List Pat) (st : St) (v : Val)
    (h : (stepMap rec kids st).out = .val v) (i : Nat) (k : Pat) (hk : kids[i]? = some k) :
    (stepMap rec kids st).kids[i]? = some (rec k).p :=
  argsFirst_once _ rec kids st v h i k hk

/-- `PMap` resolves its arguments BEFORE its input: when an argument ends, the input has not been consumed. -/
theorem map_arg_before_input (rec : Rec) (a p : Pat) (st : St) (hp : (rec p).out = .stop) :
    (stepMap rec [a, p] st).out = .stop ∧ (stepMap rec [a, p] st).kids = [a, (rec p).p] := by
  simp [stepMap, stepPoll, ordArgsFirst, pollKids, stepKid, hp]

theorem mapEnumerated_arg_once (rec : Rec) (kids : List Pat) (st : St) (v : Val)
    (h : (stepMapEnumerated rec kids st).out = .val v) (i : Nat) (k : Pat) (hk : kids[i]? = some k) :
    (stepMapEnumerated rec kids st).kids[i]? = some (rec k).p :=
  argsFirst_once _ rec kids st v h i k hk

/-- `PScaleLinLin`: `from_min`, `from_max`, `to_min`, `to_max` (indices 1..4). -/
theorem scaleLinLin_param_once (rec : Rec) (kids : List Pat) (st : St) (v : Val)
    (h : (stepScaleLinLin rec kids st).out = .val v) (i : Nat) (k : Pat) (hk : kids[i]? = some k) :
    (stepScaleLinLin rec kids st).kids[i]? = some (rec k).p :=
  argsFirst_once _ rec kids st v h i k hk

/-- `PScaleLinExp` (for any power function). -/
theorem scaleLinExp_param_once (pw : Rat → Rat → Out) (rec : Rec) (kids : List Pat) (st : St) (v : Val)
    (h : (stepScaleLinExp pw rec kids st).out = .val v) (i : Nat) (k : Pat) (hk : kids[i]? = some k) :
    (stepScaleLinExp pw rec kids st).kids[i]? = some (rec k).p :=
  argsFirst_once _ rec kids st v h i k hk

/-- `PRound.ndigits`. -/
theorem round_ndigits_once (rec : Rec) (kids : List Pat) (st : St) (v : Val)
    (h : (stepRound rec kids st).out = .val v) (i : Nat) (k : Pat) (hk : kids[i]? = some k) :
    (stepRound rec kids st).kids[i]? = some (rec k).p :=
  argsFirst_once _ rec kids st v h i k hk

/-- `PScalar.method`. -/
theorem scalar_method_once (rec : Rec) (kids : List Pat) (st : St) (v : Val)
    (h : (stepScalar rec kids st).out = .val v) (i : Nat) (k : Pat) (hk : kids[i]? = some k) :
    (stepScalar rec kids st).kids[i]? = some (rec k).p :=
  argsFirst_once _ rec kids st v h i k hk

/-- `PWrap.min` (index 1) and `PWrap.max` (index 2) — after fix 04 — also on a step that yields a rest. -/
theorem wrap_bounds_once (rec : Rec) (kids : List Pat) (st : St) (v : Val)
    (h : (stepWrap rec kids st).out = .val v) (i : Nat) (hi : i < 3) (k : Pat) (hk : kids[i]? = some k) :
    (stepWrap rec kids st).kids[i]? = some (rec k).p :=
  inOrder_once 3 _ rec kids st v h i hi k hk

/-- `PIndexOf.list` (index 0) and `PIndexOf.item` (index 1). -/
theorem indexOf_param_once (rec : Rec) (kids : List Pat) (st : St) (v : Val)
    (h : (stepIndexOf rec kids st).out = .val v) (i : Nat) (hi : i < 2) (k : Pat) (hk : kids[i]? = some k) :
    (stepIndexOf rec kids st).kids[i]? = some (rec k).p :=
  inOrder_once 2 _ rec kids st v h i hi k hk

/-- `PDegree.degree` (index 0) and `PDegree.scale` (index 1), also on a rest degree. -/
theorem degree_param_once (rec : Rec) (kids : List Pat) (st : St) (v : Val)
    (h : (stepDegree rec kids st).out = .val v) (i : Nat) (hi : i < 2) (k : Pat) (hk : kids[i]? = some k) :
    (stepDegree rec kids st).kids[i]? = some (rec k).p :=
  inOrder_once 2 _ rec kids st v h i hi k hk

/-- `PTri.length / min / max`. -/
theorem tri_param_once (rec : Rec) (kids : List Pat) (st : St) (v : Val)
    (h : (stepTri rec kids st).out = .val v) (i : Nat) (hi : i < 3) (k : Pat) (hk : kids[i]? = some k) :
    (stepTri rec kids st).kids[i]? = some (rec k).p :=
  inOrder_once 3 _ rec kids st v h i hi k hk

/-- `PSaw.length / min / max`. -/
theorem saw_param_once (rec : Rec) (kids : List Pat) (st : St) (v : Val)
    (h : (stepSaw rec kids st).out = .val v) (i : Nat) (hi : i < 3) (k : Pat) (hk : kids[i]? = some k) :
    (stepSaw rec kids st).kids[i]? = some (rec k).p :=
  inOrder_once 3 _ rec kids st v h i hi k hk

/-- In closed form for `PWrap`: input, `min`, `max` each one step further, nothing else changed. -/
theorem wrap_kids_after (rec : Rec) (a mn mx : Pat) (st : St) (x lo hi : Val)
    (ha : (rec a).out = .val x) (hl : (rec mn).out = .val lo) (hh : (rec mx).out = .val hi) :
    (stepWrap rec [a, mn, mx] st).kids = [(rec a).p, (rec mn).p, (rec mx).p] ∧
    (stepWrap rec [a, mn, mx] st).out = wrapVal [x, lo, hi] := by
  simp [stepWrap, stepPoll, pollKids, stepKid, ha, hl, hh, pure1]

/-- `PChanged` / `PDiff`: once `current` is loaded, the source is consumed exactly once per step. -/
theorem delta_source_once (g : Val → Val → Out) (rec : Rec) (a : Pat) (st : St) (h : st.n0 ≠ 0) :
    (stepDelta g rec [a] st).kids = [(rec a).p] := by
  rcases Out.val_or_noVal (stepKid rec [a] 0).1 with ⟨x, hx⟩ | hn
  · rw [stepDelta_val h hx]; rfl
  · rw [stepDelta_fail hn]; rfl

/-! Non-vacuity: a varying `max` is consumed in step with the input. -/
example : clsOuts stepWrap (stepF 5) 4
    [.node .seq [Pat.const (.int 7)] { n0 := -1 }, Pat.const (.int 0),
     .node .seq [Pat.const (.int 5), Pat.const (.int 4)] { n0 := -1 }] {} =
    [.val (.int 2), .val (.int 3), .val (.int 2), .val (.int 3)] := by decide +kernel

end IsobarV.C12
