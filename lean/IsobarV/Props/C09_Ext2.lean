/-
C09 — iterator protocol: stickiness of StopIteration for the ext2 group.

`PMetropolis` and `PPatternGeneratorAction` (pure generator function) never raise StopIteration; `PFunc`,
`PFilterByKey`, `PNearestNoteInKey`, `PKeyTonic`, `PKeyScale` end exactly when one of their attributes ends, and that
attribute is resolved again at every later step.  `PSequenceAction` resolves `repeats` afresh every time its inner
sequence ends: with a VARYING `repeats` it is a selector (it resumes when a later value of `repeats` exceeds the
counter), like `PReset` and the array lookup, and is deliberately not in the sticky set; with a constant `repeats` it
ends for good (decided by the harness: in finite contexts the generator keeps `repeats` literal).
-/
import IsobarV.Pat.Cls.Ext2Lemmas
import IsobarV.Props.C09_Scalar

namespace IsobarV.C09Ext2
open IsobarV.Pat IsobarV.C09

theorem metropolis_never_stops (rec : Rec) (kids : List Pat) (st : St) : (stepMetropolis rec kids st).out ≠ .stop :=
  (stepMetropolis_spec rec kids st).2.1

theorem pga_never_stops (rec : Rec) (kids : List Pat) (st : St) : (stepPga rec kids st).out ≠ .stop :=
  (stepPga_spec rec kids st).2.1

theorem metropolis_sticky : ClsSticky .metropolis := .of_never_stops fun rec kids st =>
  ⟨.of_eq (stepMetropolis_spec rec kids st).1, metropolis_never_stops rec kids st⟩

theorem pga_sticky : ClsSticky .patternGeneratorAction := .of_never_stops fun rec kids st =>
  ⟨.of_eq (stepPga_spec rec kids st).1, pga_never_stops rec kids st⟩

theorem keyMapVal_ne_stop (f : Tonal.Key → Option Int → Option Int) (vs : List Val) : keyMapVal f vs ≠ .stop := by
  unfold keyMapVal; (repeat' split) <;> nofun

theorem keyTonicVal_ne_stop (vs : List Val) : keyTonicVal vs ≠ .stop := by
  unfold keyTonicVal; (repeat' split) <;> nofun

theorem keyScaleVal_ne_stop (vs : List Val) : keyScaleVal vs ≠ .stop := by
  unfold keyScaleVal; (repeat' split) <;> nofun

theorem func_sticky : ClsSticky .func := poll_sticky (fun _ => [0]) funcF _ rfl fun st vs => (funcF_spec st vs).2
theorem filterByKey_sticky : ClsSticky .filterByKey :=
  poll_sticky (fun _ => [0, 1]) (pure1 (keyMapVal Tonal.pFilterByKey)) _ rfl (fun _ vs => keyMapVal_ne_stop _ vs)
theorem nearestNoteInKey_sticky : ClsSticky .nearestNoteInKey :=
  poll_sticky (fun _ => [0, 1]) (pure1 (keyMapVal Tonal.pNearestNoteInKey)) _ rfl (fun _ vs => keyMapVal_ne_stop _ vs)
theorem keyTonic_sticky : ClsSticky .keyTonic :=
  poll_sticky (fun _ => [0]) (pure1 keyTonicVal) _ rfl (fun _ vs => keyTonicVal_ne_stop vs)
theorem keyScale_sticky : ClsSticky .keyScale :=
  poll_sticky (fun _ => [0]) (pure1 keyScaleVal) _ rfl (fun _ vs => keyScaleVal_ne_stop vs)

/-- The sticky classes of this group (`PSequenceAction` with a varying `repeats` is a selector: see the header). -/
def Ext2Sticky (c : Cls) : Prop :=
  c = .metropolis ∨ c = .patternGeneratorAction ∨ c = .func ∨ c = .filterByKey ∨ c = .nearestNoteInKey ∨ c = .keyTonic ∨
  c = .keyScale

theorem ext2_sticky : ∀ c, Ext2Sticky c ∨ ScalarSticky c ∨ StickyCore c → ClsSticky c := by
  rintro c ((rfl | rfl | rfl | rfl | rfl | rfl | rfl) | h)
  · exact metropolis_sticky
  · exact pga_sticky
  · exact func_sticky
  · exact filterByKey_sticky
  · exact nearestNoteInKey_sticky
  · exact keyTonic_sticky
  · exact keyScale_sticky
  · exact scalar_sticky c h

/-- **C09 for the ext2 group**: in any expression built from these classes, the scalar group and the sticky core
    classes, nested to any depth, once `next()` has raised StopIteration no later `next()` yields a value. -/
theorem sticky_ext2 (fuel : Nat) (p : Pat) (hp : AllCls (fun c => Ext2Sticky c ∨ ScalarSticky c ∨ StickyCore c) p)
    (hstop : (stepF fuel p).out = .stop) : ∀ n, ∀ o ∈ outs fuel n (stepF fuel p).p, NoVal o :=
  (sticky_stepF ext2_sticky fuel p hp).2 hstop

/-! Non-vacuity: a filter over a finite melody ends with it and stays ended; a sequence action with a constant
    `repeats` ends for good, with the varying `repeats` 1, 3 it resumes (the selector behaviour described above). -/
section Example
def c (i : Int) : Pat := Pat.const (.int i)
def exF : Pat := .node .filterByKey [.node .seq [c 0, c 1, c 2] { n0 := 1 }, Pat.const (.tup [.int 0, .str "major"])] {}
example : outs 10 6 exF = [.val (.int 0), .val Val.none, .val (.int 2), .stop, .stop, .stop] := by decide +kernel
example : (stepF 10 (after 10 3 exF)).out = .stop := by decide +kernel
def exS (rep : Pat) : Pat := .node .sequenceAction [rep, c 1, c 2] { n0 := 1 }
example : outs 10 7 (exS (c 2)) = [.val (.int 1), .val (.int 2), .val (.int 2), .val (.int 1), .stop, .stop, .stop] := by
  decide +kernel
example : outs 10 6 (exS (.node .seq [c 1, c 3] { n0 := -1 })) =
    [.val (.int 1), .val (.int 2), .stop, .val (.int 2), .val (.int 1), .stop] := by decide +kernel
end Example

end IsobarV.C09Ext2
