/-
C04 — `reset()` rewinds any pattern: reset-correctness of the classes of `IsobarV/Pat/Cls/Seq2.lean`
(PReverse, PPad, PPadToMultiple, PCounter, PCollapse, PNoRepeats, PPermut, PInterpolate, PEuclidean,
PArpeggiator) and — with a variant of the generic machinery for invariants closed under `reset` — PReset,
whose `__next__` itself calls `reset()` on a sub-pattern.
-/
import IsobarV.Props.C04
import IsobarV.Pat.Cls.Seq2Lemmas

namespace IsobarV.C04
open IsobarV.Pat

/-- From a `stepX_spec` of the lemma file, whose first two conjuncts are what `of_step` asks for. -/
theorem _root_.IsobarV.Pat.ClsResetOK.of_spec {c : Cls} {step : ClsStep} {r : St → St} {T : Rec → List Pat → St → Prop}
    (h : ∀ rec kids st, Stepped rec kids (step rec kids st).kids ∧ r (step rec kids st).st = r st ∧ T rec kids st)
    (hs : clsStep c = step := by rfl) (hr : ∀ s, clsReset c s = { r s with cur := 0 } := by intros; rfl) : ClsResetOK c :=
  .of_step (fun rec kids st => (h rec kids st).imp_right And.left) hs hr

/-- `PReverse.reset()` re-materialises the reversed input: the model forgets the buffer. -/
theorem reverse_ok : ClsResetOK .reverse := .of_spec stepReverse_spec

theorem pad_ok : ClsResetOK .pad := .of_spec stepPad_spec

/-- `PPadToMultiple.reset()` (added by /repo commit 8b782a9) sets `count` and `padcount` back to 0. -/
theorem padToMultiple_ok : ClsResetOK .padToMultiple := .of_spec stepPadToMultiple_spec

/-- `PCounter.reset()` (added by /repo commit fc116b2) sets `count` and `value` back to 0. -/
theorem counter_ok : ClsResetOK .counter := .of_spec stepCounter_spec

theorem collapse_ok : ClsResetOK .collapse :=
  .of_stepped fun rec kids _ => ⟨(collapseLoop_last rec LOOPFUEL kids).stepped, rfl⟩

/-- `PNoRepeats.reset()` (added by /repo commit adcdf07) forgets the last value. -/
theorem noRepeats_ok : ClsResetOK .noRepeats := .of_step fun r k s => (stepNoRepeats_spec r k s).imp_left (·.stepped)

theorem permut_ok : ClsResetOK .permut := .of_step stepPermut_stepped

theorem interpolate_ok : ClsResetOK .interpolate := .of_spec stepInterpolate_spec

/-- `PEuclidean.reset()` (added by /repo commit 88dfa69) returns to the initial phase. -/
theorem euclidean_ok : ClsResetOK .euclidean := .of_spec stepEuclidean_spec

/-- `PArpeggiator.reset()` (added by /repo commit 09a99a5) rewinds `pos`. -/
theorem arpeggiator_ok : ClsResetOK .arpeggiator := .of_step fun r k s => (stepArpeggiator_spec r k s).imp .of_eq And.left

/-- The classes of this group proved reset-correct in the sense of `ClsResetOK`. -/
def Seq2Cls (c : Cls) : Prop :=
  c = .reverse ∨ c = .pad ∨ c = .padToMultiple ∨ c = .counter ∨ c = .collapse ∨ c = .noRepeats ∨ c = .permut ∨
  c = .interpolate ∨ c = .euclidean ∨ c = .arpeggiator

theorem seq2_ok : ∀ c, Seq2Cls c ∨ CoreCls c → ClsResetOK c := by
  intro c h
  rcases h with h | h
  · rcases h with rfl | rfl | rfl | rfl | rfl | rfl | rfl | rfl | rfl | rfl
    · exact reverse_ok
    · exact pad_ok
    · exact padToMultiple_ok
    · exact counter_ok
    · exact collapse_ok
    · exact noRepeats_ok
    · exact permut_ok
    · exact interpolate_ok
    · exact euclidean_ok
    · exact arpeggiator_ok
  · exact core_ok c h

/-- **C04 for this group**: any expression built from the classes above and the core classes, nested to any
    depth, is rewound by `reset()` after any number of steps. -/
theorem reset_rewinds_seq2 (fuel k : Nat) (p0 : Pat) (hp : AllCls (fun c => Seq2Cls c ∨ CoreCls c) p0) (h0 : IsInit p0) :
    reset (after fuel k p0) = p0 :=
  reset_rewinds seq2_ok fuel k p0 hp h0

theorem all_rewinds_seq2 (fuel maximum : Nat) (p0 : Pat) (hp : AllCls (fun c => Seq2Cls c ∨ CoreCls c) p0) (h0 : IsInit p0)
    (hok : (nextn fuel maximum p0).err = Option.none) : (all fuel maximum p0).p = p0 :=
  all_rewinds seq2_ok fuel maximum p0 hp h0 hok

/-! ### PReset: `__next__` calls `reset()` on its pattern

`ClsResetOK` quantifies over arbitrary invariants `P`; a class that itself resets a sub-pattern needs `P` to be
closed under `reset` (that `reset` is idempotent holds of every pattern, `reset_idem`).  `AllCls S` is closed under
`reset`, so the tree-level theorem is re-derived for that situation. -/

/-- Reset-correctness relative to invariants closed under `reset`. -/
def ClsResetOKR (c : Cls) : Prop :=
  ∀ (P : Pat → Prop) (rec : Rec) (kids : List Pat) (st : St), RecOK P rec →
    (∀ k, P k → P (reset k)) → (∀ k ∈ kids, P k) →
    (∀ k ∈ (clsStep c rec kids st).kids, P k) ∧
    (clsStep c rec kids st).kids.map reset = kids.map reset ∧
    clsReset c (clsStep c rec kids st).st = clsReset c st

theorem ClsResetOK.toR {c : Cls} (h : ClsResetOK c) : ClsResetOKR c :=
  fun P rec kids st hrec _ hk => h P rec kids st hrec hk

theorem resetKid_ok {P : Pat → Prop} (hcl : ∀ k, P k → P (reset k)) (kids : List Pat) (i : Nat)
    (hk : ∀ k ∈ kids, P k) :
    (∀ k ∈ resetKid reset kids i, P k) ∧ (resetKid reset kids i).map reset = kids.map reset := by
  unfold resetKid
  cases h : kids[i]? with
  | none => exact ⟨hk, rfl⟩
  | some k =>
    constructor
    · intro x hx
      rcases List.mem_or_eq_of_mem_set hx with hx | rfl
      · exact hk x hx
      · exact hcl k (hk k (List.mem_of_getElem? h))
    · simp only []
      rw [List.map_set, reset_idem]
      exact set_same _ _ _ (by simp [h])

/-- `PReset` keeps no state of its own; it steps the trigger, possibly resets the pattern, then steps it. -/
theorem preset_ok : ClsResetOKR .reset := by
  intro P rec kids st hrec hcl hk
  obtain ⟨h1, h2⟩ := stepKid_ok hrec kids 1 hk
  rw [show clsStep .reset = stepResetW reset from rfl]
  cases ht : (stepKid rec kids 1).1 with
  | val t =>
    rw [stepResetW_val reset st ht]
    split
    · obtain ⟨r1, r2⟩ := resetKid_ok hcl (stepKid rec kids 1).2 0 h1
      obtain ⟨a1, a2⟩ := stepKid_ok hrec _ 0 r1
      exact ⟨a1, a2.trans (r2.trans h2), rfl⟩
    · obtain ⟨b1, b2⟩ := stepKid_ok hrec _ 0 h1
      exact ⟨b1, b2.trans h2, rfl⟩
    · exact ⟨h1, h2, rfl⟩
  | stop => rw [stepResetW_noVal reset st (.of_stop ht)]; exact ⟨h1, h2, rfl⟩
  | err e => rw [stepResetW_noVal reset st (.of_err ht)]; exact ⟨h1, h2, rfl⟩

theorem reset_allCls {S : Cls → Prop} (p : Pat) (hp : AllCls S p) : AllCls S (reset p) := by
  induction hp with
  | @node c kids st hc hk ih =>
    rw [reset_node]
    exact .node hc fun k hk' => by
      obtain ⟨k0, hk0, rfl⟩ := List.mem_map.mp hk'
      exact ih k0 hk0

theorem reset_stepF_R {S : Cls → Prop} (hS : ∀ c, S c → ClsResetOKR c) (fuel : Nat) (p : Pat) (hp : AllCls S p) :
    AllCls S (stepF fuel p).p ∧ reset (stepF fuel p).p = reset p := by
  induction fuel generalizing p with
  | zero => exact ⟨hp, rfl⟩
  | succ n ih =>
    obtain ⟨hc, hk⟩ := hp
    obtain ⟨h1, h2, h3⟩ := hS _ hc (AllCls S) (stepF n) _ _ ih reset_allCls hk
    exact ⟨.node hc h1, by simp only [stepF, reset_node, h2, h3]⟩

theorem reset_after_R {S : Cls → Prop} (hS : ∀ c, S c → ClsResetOKR c) (fuel n : Nat) (p : Pat) (hp : AllCls S p) :
    AllCls S (after fuel n p) ∧ reset (after fuel n p) = reset p :=
  after_of_stepF (reset_stepF_R hS fuel) n p hp

/-- This group, `PReset` included, and the core classes. -/
def Seq2ClsR (c : Cls) : Prop := c = .reset ∨ Seq2Cls c ∨ CoreCls c

theorem seq2R_ok : ∀ c, Seq2ClsR c → ClsResetOKR c := by
  rintro c (rfl | h)
  · exact preset_ok
  · exact ClsResetOK.toR (seq2_ok c h)

theorem seq2R_idem : ∀ c, Seq2ClsR c → ∀ st, clsReset c (clsReset c st) = clsReset c st :=
  fun c _ => clsReset_idem c

/-- **C04 with `PReset` in the tree**: expressions built from this group (including patterns that reset their
    sub-patterns while running), and the core classes, nested to any depth, are rewound by `reset()` after any
    number of steps. -/
theorem reset_rewinds_seq2_preset (fuel k : Nat) (p0 : Pat) (hp : AllCls Seq2ClsR p0) (h0 : IsInit p0) :
    reset (after fuel k p0) = p0 := by
  rw [(reset_after_R seq2R_ok fuel k p0 hp).2]; exact h0

/-! Non-vacuity: nested expressions of this group, consumed, then reset. -/
section Example
def cI (i : Int) : Pat := Pat.const (.int i)
def sqI (xs : List Int) (rep : Int) : Pat := .node .seq (xs.map cI) { n0 := rep }
/-- `PPadToMultiple(PReverse(PCounter(PSequence([1, 0, 1], 1))), 4, 1)` -/
def ex1 : Pat := .node .padToMultiple [.node .reverse [.node .counter [sqI [1, 0, 1] 1] {}] {}] { n0 := 4, n1 := 1 }
example : IsInit ex1 := by unfold IsInit; rfl
example : outs 10 9 ex1 = [.val (.int 2), .val (.int 1), .val (.int 1), .val Val.none, .stop, .stop, .stop, .stop, .stop] := by decide +kernel
example : reset (after 10 6 ex1) = ex1 := by rfl
/-- `PReset(PNoRepeats(PSequence([5, 5, 6], 1)), PSequence([0, 0, 1, 0]))` -/
def ex2 : Pat := .node .reset [.node .noRepeats [sqI [5, 5, 6] 1] { v0 := .int MAXSIZE }, sqI [0, 0, 1, 0] (-1)] {}
example : IsInit ex2 := by unfold IsInit; rfl
example : outs 10 6 ex2 = [.val (.int 5), .val (.int 6), .val (.int 5), .val (.int 6), .stop, .stop] := by decide +kernel
example : reset (after 10 5 ex2) = ex2 := by rfl
end Example

end IsobarV.C04
