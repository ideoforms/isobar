/-
C04 — `reset()` rewinds any pattern: reset-correctness of the classes of `scalar.py`, `PDegree`,
`PMidiNoteToFrequency`, `PTri`, `PSaw` (models: `IsobarV/Pat/Cls/Scalar.lean`, after the fix patches
01 (PNormalise.reset), 03 (PTri/PSaw.reset)), and the instantiated theorem for expressions built from these
classes and the core classes.
-/
import IsobarV.Pat.Cls.ScalarLemmas
import IsobarV.Props.C04

namespace IsobarV.C04
open IsobarV.Pat

/-- `PChanged` / `PDiff`: `reset()` resets the source and reloads `current` from it (in the model: marks
    `current` as not loaded), whatever was consumed before. -/
theorem delta_ok (g : Val → Val → Out) (c : Cls) (hc : clsStep c = stepDelta g)
    (hr : ∀ s, clsReset c s = { resetDelta s with cur := 0 }) : ClsResetOK c := .of_stepped fun rec kids st => by
  rw [hc, hr, hr, (stepDelta_stepped g rec kids st).2]
  exact ⟨(stepDelta_stepped g rec kids st).1, rfl⟩

theorem changed_ok : ClsResetOK .changed := delta_ok changedVal _ rfl (fun _ => rfl)
theorem diff_ok : ClsResetOK .diff := delta_ok diffVal _ rfl (fun _ => rfl)

-- Classes without own state: `reset()` is the generic reset of the pattern attributes.
theorem skipIf_ok : ClsResetOK .skipIf := poll_ok (fun _ => [0, 1]) (pure1 skipIfVal) _ rfl (fun _ _ => rfl)
theorem map_ok : ClsResetOK .map := poll_ok ordArgsFirst mapF _ rfl fun st vs => by rw [mapF_st]
theorem scaleLinLin_ok : ClsResetOK .scaleLinLin := poll_ok ordArgsFirst (pure1 scaleLinLinVal) _ rfl (fun _ _ => rfl)
theorem scaleLinExp_ok : ClsResetOK .scaleLinExp :=
  poll_ok ordArgsFirst (pure1 (scaleLinExpVal powApprox)) _ rfl (fun _ _ => rfl)
theorem round_ok : ClsResetOK .round := poll_ok ordArgsFirst (pure1 roundVal) _ rfl (fun _ _ => rfl)
theorem scalar_cls_ok : ClsResetOK .scalar := poll_ok ordArgsFirst (pure1 scalarVal) _ rfl (fun _ _ => rfl)
theorem wrap_ok : ClsResetOK .wrap := poll_ok (fun _ => [0, 1, 2]) (pure1 wrapVal) _ rfl (fun _ _ => rfl)
theorem indexOf_ok : ClsResetOK .indexOf := poll_ok (fun _ => [0, 1]) (pure1 indexOfVal) _ rfl (fun _ _ => rfl)
theorem degree_ok : ClsResetOK .degree := poll_ok (fun _ => [0, 1]) (pure1 degreeVal) _ rfl (fun _ _ => rfl)
theorem midi_ok : ClsResetOK .midiNoteToFrequency :=
  poll_ok (fun _ => [0]) (pure1 (midiVal powApprox)) _ rfl (fun _ _ => rfl)

/-- `PNormalise.reset()` (fix 01) forgets both bounds, whatever they were. -/
theorem normalise_ok : ClsResetOK .normalise := poll_ok (fun _ => [0]) normF _ rfl fun st vs =>
  congrArg (fun s : St => { s with cur := 0 }) (normF_reset st vs)

/-- `PMapEnumerated.reset()` resets its counter (`self.counter`, a `PSeries`, is a pattern attribute). -/
theorem mapEnumerated_ok : ClsResetOK .mapEnumerated := poll_ok ordArgsFirst enumF _ rfl fun st vs =>
  congrArg (fun s : St => { s with cur := 0 }) (enumF_reset st vs)

/-- `PTri.reset()` / `PSaw.reset()` (fix 03) reset the pattern-valued parameters and the phase. -/
theorem osc_ok (shape : Rat → Rat) (c : Cls) (hc : clsStep c = stepPoll (fun _ => [0, 1, 2]) (oscF shape))
    (hr : ∀ s, clsReset c s = { resetOsc s with cur := 0 }) : ClsResetOK c := poll_ok _ _ c hc fun st vs => by
  rw [hr, hr, oscF_reset]

theorem tri_ok : ClsResetOK .tri := osc_ok triShape _ rfl (fun _ => rfl)
theorem saw_ok : ClsResetOK .saw := osc_ok id _ rfl (fun _ => rfl)

def ScalarCls (c : Cls) : Prop :=
  c = .changed ∨ c = .diff ∨ c = .skipIf ∨ c = .normalise ∨ c = .map ∨ c = .mapEnumerated ∨ c = .scaleLinLin ∨
  c = .scaleLinExp ∨ c = .round ∨ c = .scalar ∨ c = .wrap ∨ c = .indexOf ∨ c = .degree ∨ c = .midiNoteToFrequency ∨
  c = .tri ∨ c = .saw

theorem scalar_ok : ∀ c, ScalarCls c ∨ CoreCls c → ClsResetOK c := by
  intro c h
  rcases h with h | h
  · unfold ScalarCls at h
    rcases h with h | h | h | h | h | h | h | h | h | h | h | h | h | h | h | h <;> subst h
    · exact changed_ok
    · exact diff_ok
    · exact skipIf_ok
    · exact normalise_ok
    · exact map_ok
    · exact mapEnumerated_ok
    · exact scaleLinLin_ok
    · exact scaleLinExp_ok
    · exact round_ok
    · exact scalar_cls_ok
    · exact wrap_ok
    · exact indexOf_ok
    · exact degree_ok
    · exact midi_ok
    · exact tri_ok
    · exact saw_ok
  · exact core_ok c h

/-- **C04 for the scalar group**: any expression built from these classes and the core classes, nested to any
    depth, is rewound by `reset()` after any number of steps — its own state and every nested pattern. -/
theorem reset_rewinds_scalar (fuel k : Nat) (p0 : Pat) (hp : AllCls (fun c => ScalarCls c ∨ CoreCls c) p0)
    (h0 : IsInit p0) : reset (after fuel k p0) = p0 :=
  reset_rewinds scalar_ok fuel k p0 hp h0

theorem all_rewinds_scalar (fuel maximum : Nat) (p0 : Pat) (hp : AllCls (fun c => ScalarCls c ∨ CoreCls c) p0)
    (h0 : IsInit p0) (hok : (nextn fuel maximum p0).err = Option.none) : (all fuel maximum p0).p = p0 :=
  all_rewinds scalar_ok fuel maximum p0 hp h0 hok

/-! Non-vacuity: a running normalisation of a triangle wave with a pattern-valued length, fed through `PDiff`. -/
section Example
def sq' (xs : List Pat) (rep : Int) : Pat := .node .seq xs { n0 := rep }
def ci (i : Int) : Pat := Pat.const (.int i)
def exS : Pat :=
  .node .diff [.node .normalise [.node .tri [sq' [ci 4, ci 2, ci 8] (-1), ci 0, ci 10] { v0 := .flt 0 }] {}] {}
example : IsInit exS := by unfold IsInit; rfl
example : reset (after 10 5 exS) = exS := by rfl
example : outs 10 3 exS = outs 10 3 (reset (after 10 5 exS)) ∧ outs 10 3 exS ≠ outs 10 3 (after 10 5 exS) := by decide +kernel
end Example

end IsobarV.C04
