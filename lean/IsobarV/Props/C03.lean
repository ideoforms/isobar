/-
Property C03 — event dictionaries resolve to the documented device messages.

All theorems are about the executable model `IsobarV/Event/Model.lean` (`Event.__init__` = `resolve` /
`eventInit`, `Track.perform_event` = `perform`, one event through `Track.tick` = `trackEvent`) and hold for EVERY
event dictionary, every assignment of timeline defaults and every value of the model's universe — no bound.
Vocabulary: `IsobarV/Event/Spec.lean`; lemmas: `IsobarV/Event/Lemmas.lean`.
The key whitelist, the `EVENT_*` names and the library defaults come from the tables GENERATED from the repository
(`constants_as_assumed`, `library_defaults_as_documented` compare those tables with what the model spells out).
The `example`s after a theorem meet its hypotheses on concrete dictionaries, or run the model on them.
-/
import IsobarV.Event.Lemmas
import IsobarV.Props.C13

namespace IsobarV.C03
open IsobarV.Event IsobarV.Tonal

/-- the key of the examples: C# "pureminor" -/
def exKey : Key := { tonic := 1, scale := { semitones := [0, 3, 7], octave := 12 } }

/-- an example dictionary: a three-voice chord by degrees, with legacy keys, per-voice gate and channel -/
def exChord : Dict := [
  ("degree", .tup [.int 0, .int (-1), .int 4]), ("key", .a (.key exKey)), ("octave", .int 4), ("transpose", .int 2),
  ("amp", .int 90), ("amplitude", .int 10), ("gate", .tup [.flt (1/2), .int 1, .int 0]), ("channel", .tup [.int 1, .int 2, .int 3]),
  ("dur", .flt (1/2))]

/-- `Event.__init__` (a sequence of dictionary updates) computes exactly the declarative reading of the
    dictionary: per field the first of [explicit (with synonyms), timeline default, library default], the pitch
    formula, the first-present rule for the type; and it fails exactly when that reading fails, with the same error. -/
theorem resolve_eq_spec (d ov : Dict) : resolve d ov = specResolve d ov := by
  unfold resolve resolveWith specResolve checkKeys checkConflict specPitch specFinal
  rw [List.all_eq_not_any_not]
  cases d.any fun kv => !Generated.allEventParameters.contains kv.1 with
  | true => rfl
  | false =>
    have hg : (applyDefaults (foldLegacy d) (effectiveDefaults ov)).get = specField d ov :=
      funext (defaults_stage_get d ov)
    simp only [Bool.not_false, if_true, ok_bind, Dict.contains, hg, specField_note, specField_degree]
    by_cases hc : ((d.get "note").isSome && (d.get "degree").isSome) = true
    · simp only [hc, if_true, Bool.false_eq_true, if_false]
      rfl
    · simp only [hc, Bool.false_eq_true, if_false, ok_bind, stages_eq, hg]

example : resolve exChord [] = .ok {
    payload := .note (.list [.int 51, .int 46, .int 66]) (.int 90) (.tup [.flt (1/2), .int 1, .int 0])
                 (.tup [.int 1, .int 2, .int 3]) .none,
    duration := .flt (1/2), active := .bool true } := by decide +kernel
example : specResolve exChord [] = resolve exChord [] := (resolve_eq_spec exChord []).symm
example : resolve [("note", .int 60), ("foo", .int 1)] [] = .error .valueError := by decide +kernel
example : specResolve [("control", .int 7)] [] = .error .keyError := by decide +kernel

/-- a successful `resolve`, read backwards: the pitch the formula gave, and where payload, duration and `active`
    were read. Every theorem below about a resolved event starts from here. -/
theorem resolve_ok (d ov : Dict) (e : Event) (h : resolve d ov = .ok e) :
    ∃ p, specPitch d ov = .ok p ∧ specPayload (specFinal d ov p) = .ok e.payload ∧
      specFinal d ov p "duration" = some e.duration ∧ specFinal d ov p "active" = some e.active := by
  rw [resolve_eq_spec] at h
  unfold specResolve at h
  split at h
  · cases h
  · split at h
    · cases h
    · obtain ⟨p, hp, he⟩ := bind_eq_ok.1 h
      exact ⟨p, hp, specEvent_ok _ e he⟩

/-- the same for a note event: the five lookups its attributes come from. -/
theorem resolve_note {d ov : Dict} {e : Event} {n a g c pb : Val} (h : resolve d ov = .ok e)
    (hp : e.payload = .note n a g c pb) :
    ∃ p, specPitch d ov = .ok p ∧ specFinal d ov p "note" = some n ∧ specFinal d ov p "amplitude" = some a ∧
      specFinal d ov p "gate" = some g ∧ specFinal d ov p "channel" = some c ∧ specFinal d ov p "pitchbend" = some pb := by
  obtain ⟨p, hpitch, hpay, -, -⟩ := resolve_ok d ov e h
  rw [hp] at hpay
  exact ⟨p, hpitch, (specPayload_ok _ _ hpay).2⟩

/-- the note of a note event is the value of the pitch formula. -/
theorem note_is_pitch {d ov : Dict} {e : Event} {n a g c pb v : Val} (h : resolve d ov = .ok e)
    (hp : e.payload = .note n a g c pb) (hv : specPitch d ov = .ok (.notes v)) : n = v := by
  obtain ⟨p, hpitch, hn, -⟩ := resolve_note h hp
  cases hpitch.symm.trans hv
  exact (Option.some.inj hn).symm

/-- the key check of `resolve` passes, in the form `specResolve` tests it. -/
theorem known_keys {d : Dict} (hk : ∀ kv ∈ d, kv.1 ∈ Generated.allEventParameters) :
    (d.any fun kv => !Generated.allEventParameters.contains kv.1) = false := by
  simpa using hk

/-- the names the model spells out are the repository's `EVENT_*` constants (generated table). -/
theorem constants_as_assumed :
    assumedConstants.all (fun p => Generated.eventConstants.lookup p.1 == some (.str p.2)) = true := by decide +kernel

-- the theorem is not empty: it runs over the 38 of the repository's `EVENT_*` constants that the model spells out
example : assumedConstants.length = 38 := by decide

/-- the library defaults are the documented ones: active, channel 0, duration 1, gate 1.0, amplitude 64, octave 0,
    transpose 0, key C major, quantize 0, delay 0, no pitch bend (generated table). -/
theorem library_defaults_as_documented : libraryDefaults = documentedDefaults := rfl

example : libraryDefaults.get "amplitude" = some (.int 64) := by decide +kernel

/-- a key that is not an event parameter: `ValueError`, whatever else the dictionary contains. -/
theorem unknown_key_rejected (d ov : Dict) (k : String) (v : Val) (hk : (k, v) ∈ d)
    (hu : k ∉ Generated.allEventParameters) : resolve d ov = .error .valueError := by
  rw [resolve_eq_spec, specResolve, if_pos]
  exact List.any_eq_true.2 ⟨(k, v), hk, by simpa using hu⟩

example : resolve [("note", .int 60), ("pitch", .int 1)] [] = .error .valueError :=
  unknown_key_rejected _ _ "pitch" (.int 1) (by simp) (by simp [Generated.allEventParameters])

/-- a note together with a degree: `InvalidEventException`. -/
theorem note_and_degree_rejected (d ov : Dict) (hk : ∀ kv ∈ d, kv.1 ∈ Generated.allEventParameters)
    (hn : d.contains "note" = true) (hd : d.contains "degree" = true) :
    resolve d ov = .error .invalidEventException := by
  rw [resolve_eq_spec, specResolve, known_keys hk, hn, hd]
  rfl

example : resolve [("note", .int 60), ("degree", .none)] [] = .error .invalidEventException :=
  note_and_degree_rejected _ _ (by decide +kernel) rfl rfl

/-- no type-selecting key at all: `InvalidEventException`. -/
theorem untyped_rejected (d ov : Dict) (hk : ∀ kv ∈ d, kv.1 ∈ Generated.allEventParameters)
    (hn : ∀ k ∈ typeKeys, hasTypeKey d k = false) : resolve d ov = .error .invalidEventException := by
  have hnd : (d.contains "note" || d.contains "degree") = false := hn "note" (by simp [typeKeys])
  simp only [Bool.or_eq_false_iff, Dict.contains, Option.isSome_eq_false_iff, Option.isNone_iff_eq_none] at hnd
  have hp : specPitch d ov = .ok .absent := by
    rw [specPitch, pitchOf, specField_degree, specField_note, hnd.1, hnd.2]
  rw [resolve_eq_spec, specResolve, known_keys hk, Dict.contains, hnd.1, hp]
  simp only [Bool.false_eq_true, if_false, Option.isSome_none, Bool.false_and, ok_bind, specEvent]
  rw [specPayload_untyped, error_bind]
  rw [final_typeKey hp]
  exact List.find?_eq_none.2 fun k hk => by simp [hn k hk]

example : resolve [("value", .int 4), ("duration", .int 1)] [] = .error .invalidEventException :=
  untyped_rejected _ _ (by decide +kernel) (by decide +kernel)

/-- the type is the FIRST PRESENT of action, patch, control, program_change, osc_address, synth, note|degree —
    for every combination of type-selecting keys. -/
theorem type_precedence (d ov : Dict) (e : Event) (h : resolve d ov = .ok e) :
    typeKeys.find? (hasTypeKey d) = some e.payload.typeKey := by
  obtain ⟨p, hp, hpay, -, -⟩ := resolve_ok d ov e h
  rw [← final_typeKey hp]
  exact (specPayload_ok _ _ hpay).1

example : (resolve [("note", .int 60), ("synth", .str "foo"), ("program_change", .int 3), ("control", .int 1), ("value", .int 2)] []).toOption.map
    (fun e => e.payload.typeKey) = some "control" := by decide +kernel
example : typeKeys.find? (hasTypeKey [("degree", .int 1), ("osc_address", .str "/x")]) = some "osc_address" := by
  simp [typeKeys, hasTypeKey, Dict.contains, Dict.get]

/-- duration and active of EVERY event: the event's own value (`dur` before `duration`), else the timeline's
    default, else the library default. -/
theorem duration_active_precedence (d ov : Dict) (e : Event) (h : resolve d ov = .ok e) :
    some e.duration = firstSome [d.get "dur", d.get "duration", timelineDefault ov "duration", libraryDefaults.get "duration"] ∧
    some e.active = firstSome [d.get "active", timelineDefault ov "active", libraryDefaults.get "active"] := by
  obtain ⟨p, -, -, hd, ha⟩ := resolve_ok d ov e h
  rw [specFinal, finalOf_other _ _ _ (by simp)] at hd ha
  rw [← hd, ← ha]
  simp only [specField, explicitField, String.reduceEq, if_true, if_false, firstSome_cons, firstSome, Option.or_assoc,
    Option.none_or, and_self]

example : resolve [("control", .int 1), ("value", .int 2), ("duration", .int 4), ("dur", .flt (1/2))] [("duration", .int 2), ("active", .bool false)]
    = .ok { payload := .control (.int 1) (.int 2) (.int 0), duration := .flt (1/2), active := .bool false } := by decide +kernel
example : resolve [("control", .int 1), ("value", .int 2)] [("duration", .int 2)]
    = .ok { payload := .control (.int 1) (.int 2) (.int 0), duration := .int 2, active := .bool true } := by decide +kernel

/-- a note event that is not a rest: amplitude (`velocity` before `amp` before `amplitude`), gate, channel and
    pitch bend are the event's own values, else the timeline's defaults, else the library defaults. -/
theorem field_precedence (d ov : Dict) (e : Event) (n a g c pb : Val) (h : resolve d ov = .ok e)
    (hp : e.payload = .note n a g c pb) (hnr : specPitch d ov ≠ .ok .rest) :
    some a = firstSome [d.get "velocity", d.get "amp", d.get "amplitude", timelineDefault ov "amplitude", libraryDefaults.get "amplitude"] ∧
    some g = firstSome [d.get "gate", timelineDefault ov "gate", libraryDefaults.get "gate"] ∧
    some c = firstSome [d.get "channel", timelineDefault ov "channel", libraryDefaults.get "channel"] ∧
    some pb = firstSome [d.get "pitchbend", timelineDefault ov "pitchbend", libraryDefaults.get "pitchbend"] := by
  obtain ⟨p, hpitch, -, ha, hg, hc, hpb⟩ := resolve_note h hp
  have hrest : p ≠ .rest := fun e => hnr (e ▸ hpitch)
  rw [specFinal, finalOf_sounding _ _ _ hrest (by simp)] at ha hg hc hpb
  rw [← ha, ← hg, ← hc, ← hpb]
  simp only [specField, explicitField, String.reduceEq, if_true, if_false, firstSome_cons, firstSome, Option.or_assoc,
    Option.none_or, and_self]

example : resolve [("note", .int 60), ("amplitude", .int 20), ("amp", .int 10), ("gate", .flt (1/4))] [("channel", .int 5), ("gate", .int 2)]
    = .ok { payload := .note (.int 60) (.int 10) (.flt (1/4)) (.int 5) .none, duration := .int 1, active := .bool true } := by
  decide +kernel
example : firstSome [(none : Option Val), some (.int 10), some (.int 20), none, some (.int 64)] = some (.int 10) := rfl

/-- a chord given by DEGREES (tuple or list), key given as an object or by name: the note of the event is, voice
    by voice, `key[degree] + 12 × octave + transpose`. -/
theorem voice_pitch (d ov : Dict) (ds : List Int) (kv : Val) (k : Key) (o t : Int) (e : Event) (n a g c pb : Val)
    (hdeg : d.get "degree" = some (.tup (ds.map Atom.int)) ∨ d.get "degree" = some (.list (ds.map Atom.int)))
    (hkv : specField d ov "key" = some kv) (hk : resolveKey kv = .ok (.key k)) (hne : k.scale.semitones ≠ [])
    (ho : specField d ov "octave" = some (.int o)) (ht : specField d ov "transpose" = some (.int t))
    (h : resolve d ov = .ok e) (hp : e.payload = .note n a g c pb) :
    n = .list (ds.map fun dg => Atom.int (k.get dg + 12 * o + t)) := by
  obtain ⟨deg, hd, hn, hds⟩ :
      ∃ deg, specField d ov "degree" = some deg ∧ deg ≠ .none ∧ degreeInts deg = .ok (.chord ds) := by
    rw [specField_degree]
    rcases hdeg with hd | hd
    · exact ⟨_, hd, nofun, degreeInts_tup ds⟩
    · exact ⟨_, hd, nofun, degreeInts_list ds⟩
  rw [note_is_pitch h hp (pitchOf_degree _ hd hn hds hkv hk (keyLookup_chord k hne ds) ho ht (shiftNote_list_ints ..)),
    List.map_map]
  rfl

example : resolve exChord [] = .ok {
    payload := .note (.list ([0, -1, 4].map fun dg => Atom.int (exKey.get dg + 12 * 4 + 2))) (.int 90)
                 (.tup [.flt (1/2), .int 1, .int 0]) (.tup [.int 1, .int 2, .int 3]) .none,
    duration := .flt (1/2), active := .bool true } := by decide +kernel
-- keys given by name: `Key("C# minor")`, `Key("eb")` (major), and names that are refused
example : parseKey ['C', '#', ' ', 'm', 'i', 'n', 'o', 'r']
    = .ok { tonic := 1, scale := { semitones := [0, 2, 3, 5, 7, 8, 10], octave := 12 } } := by decide +kernel
example : parseKey ['e', 'b'] = .ok { tonic := 3, scale := { semitones := [0, 2, 4, 5, 7, 9, 11], octave := 12 } } := by
  decide +kernel
example : parseKey ['H', ' ', 'm', 'i', 'n', 'o', 'r'] = .error .unknownNoteName := by decide +kernel
example : parseKey ['C', ' ', 'f', 'o', 'o'] = .error .unknownScaleName := by decide +kernel
example : parseKey ['C', ' ', 'a', 'u', 'g', 'm', 'e', 'n', 't', 'e', 'd', ' ', '2'] = .error .valueError := by decide +kernel

/-- a single degree: `key[degree] + 12 × octave + transpose`. -/
theorem voice_pitch_scalar (d ov : Dict) (dg : Int) (kv : Val) (k : Key) (o t : Int) (e : Event) (n a g c pb : Val)
    (hdeg : d.get "degree" = some (.int dg))
    (hkv : specField d ov "key" = some kv) (hk : resolveKey kv = .ok (.key k)) (hne : k.scale.semitones ≠ [])
    (ho : specField d ov "octave" = some (.int o)) (ht : specField d ov "transpose" = some (.int t))
    (h : resolve d ov = .ok e) (hp : e.payload = .note n a g c pb) :
    n = .int (k.get dg + 12 * o + t) := by
  have hns : keyLookup (.key k) (.one dg) = .ok (.int (k.get dg)) := by rw [keyLookup, keyGet_ok k hne]; rfl
  exact note_is_pitch h hp
    (pitchOf_degree _ ((specField_degree d ov).trans hdeg) nofun rfl hkv hk hns ho ht (shiftNote_int ..))

example : resolve [("degree", .int (-4)), ("octave", .int 5)] [("key", .str "A minor"), ("transpose", .int 1)]
    = .ok { payload := .note (.int (({ tonic := 9, scale := { semitones := [0, 2, 3, 5, 7, 8, 10], octave := 12 } } : Key).get (-4) + 12 * 5 + 1))
              (.int 64) (.flt 1) (.int 0) .none, duration := .int 1, active := .bool true } := by decide +kernel

/-- the pitch of a degree in closed form. This is `C13.degree_formula` with `12 × octave + transpose` added on
    both sides: for THE floor decomposition
    `degree = n·q + r`, `0 ≤ r < n` (`n` = number of scale degrees), the voice sounds
    `tonic + scale[r] + octave size × q + 12 × octave + transpose` — negative degrees have negative `q` and
    descend, degrees beyond one octave ascend. -/
theorem voice_pitch_degree_formula (k : Key) (hne : k.scale.semitones ≠ []) (dg q r o t : Int)
    (hr0 : 0 ≤ r) (hr1 : r < k.scale.semitones.length) (hd : dg = k.scale.semitones.length * q + r) :
    k.get dg + 12 * o + t = k.tonic + k.scale.semitones.getD r.toNat 0 + k.scale.octave * q + 12 * o + t := by
  rw [C13.degree_formula k hne dg q r hr0 hr1 hd]

example : exKey.get (-1) + 12 * 4 + 2 = 1 + 7 + 12 * (-1) + 12 * 4 + 2 :=
  voice_pitch_degree_formula exKey (by decide) (-1) (-1) 2 4 2 (by decide) (by decide) (by decide)
example : exKey.get 4 + 12 * 4 + 2 = 1 + 3 + 12 * 1 + 12 * 4 + 2 :=
  voice_pitch_degree_formula exKey (by decide) 4 1 1 4 2 (by decide) (by decide) (by decide)

/-- notes given directly (a chord as tuple or list, or a single note): `note + 12 × octave + transpose`. -/
theorem given_note_pitch (d ov : Dict) (o t : Int) (e : Event) (n a g c pb : Val)
    (hnd : d.get "degree" = none)
    (ho : specField d ov "octave" = some (.int o)) (ht : specField d ov "transpose" = some (.int t))
    (h : resolve d ov = .ok e) (hp : e.payload = .note n a g c pb) :
    (∀ ns : List Int, (d.get "note" = some (.tup (ns.map Atom.int)) ∨ d.get "note" = some (.list (ns.map Atom.int))) →
      n = .list (ns.map fun x => Atom.int (x + 12 * o + t))) ∧
    (∀ x : Int, d.get "note" = some (.int x) → n = .int (x + 12 * o + t)) := by
  have pitch {note v : Val} (hn : d.get "note" = some note) (hne : note ≠ .none)
      (hv : shiftNote note (.int o) (.int t) = .ok v) : n = v :=
    note_is_pitch h hp
      (pitchOf_note _ ((specField_degree d ov).trans hnd) ((specField_note d ov).trans hn) hne ho ht hv)
  refine ⟨fun ns hnote => ?_, fun x hx => pitch hx nofun (shiftNote_int ..)⟩
  rcases hnote with hn | hn
  · exact pitch hn nofun (shiftNote_tup_ints ..)
  · exact pitch hn nofun (shiftNote_list_ints ..)

example : resolve [("note", .tup [.int 60, .int 64]), ("octave", .int (-1)), ("transpose", .int 3)] []
    = .ok { payload := .note (.list [.int (60 + 12 * (-1) + 3), .int (64 + 12 * (-1) + 3)]) (.int 64) (.flt 1) (.int 0) .none,
            duration := .int 1, active := .bool true } := by decide +kernel

/-- a non-negative float degree counts as the degree below it (`int()` truncation). -/
theorem float_degree_truncates (r : Rat) (hr : 0 ≤ r) : degreeInts (.flt r) = degreeInts (.int r.floor) := by
  simp [degreeInts, Atom.iterOOM, pyIntAtom, truncRat, hr]

example : degreeInts (.flt (11/4)) = .ok (.one 2) := by decide +kernel
example : (resolve [("degree", .flt (11/4)), ("key", .a (.key exKey))] []).toOption.map (·.payload)
    = (resolve [("degree", .int 2), ("key", .a (.key exKey))] []).toOption.map (·.payload) := by decide +kernel

/-- `None` as note or degree is a rest: the note event performs nothing (no note-on, no note-off, no pitch bend). -/
theorem rest_is_silent (d ov : Dict) (e : Event) (n a g c pb : Val) (h : resolve d ov = .ok e)
    (hp : e.payload = .note n a g c pb)
    (hrest : d.get "degree" = some .none ∨ (d.get "degree" = none ∧ d.get "note" = some .none)) :
    perform e = { calls := [] } := by
  obtain ⟨p, hpitch, -, ha, -⟩ := resolve_note h hp
  have hpr : specPitch d ov = .ok .rest := by
    rw [specPitch, pitchOf, specField_degree, specField_note]
    rcases hrest with hd | ⟨hd, hn⟩
    · rw [hd]; rfl
    · rw [hd, hn]; rfl
  cases hpitch.symm.trans hpr
  cases (Option.some.inj ha : Val.int 0 = a)
  unfold perform
  split
  · rfl
  · rw [hp]
    rfl

example : (resolve [("note", .none), ("amplitude", .int 100)] []).toOption.map perform = some { calls := [] } := by decide +kernel
example : (resolve [("degree", .none), ("key", .a (.key exKey))] []).toOption.map perform = some { calls := [] } := by decide +kernel

/-- an event whose `active` is false performs nothing. -/
theorem inactive_is_silent (e : Event) (h : truthy e.active = false) : perform e = { calls := [] } := by
  simp [perform, h]

example : (resolve [("note", .int 60), ("active", .bool false)] []).toOption.map perform = some { calls := [] } := by decide +kernel

/-- control, program-change, OSC, synth and action events make exactly one call, of the matching device method
    (or of the callable), with the event's attributes as arguments. -/
theorem dispatch_table (e : Event) (ha : truthy e.active = true) :
    (∀ c v ch, e.payload = .control c v ch → perform e = { calls := [.control c v ch] }) ∧
    (∀ p ch, e.payload = .program p ch → perform e = { calls := [.programChange p ch] }) ∧
    (∀ a ps, e.payload = .osc a ps → perform e = { calls := [.send a ps] }) ∧
    (∀ n ps, e.payload = .synth n ps → perform e = { calls := [.create n ps] }) ∧
    (∀ id params kw args, e.payload = .action (.a (.fn id params kw)) args →
      (kw = true ∨ ∀ kv ∈ args, kv.1 ∈ params) →
      perform e = { calls := [.action (.a (.fn id params kw)) args] }) := by
  unfold perform
  rw [ha]
  refine ⟨fun c v ch hp => ?_, fun p ch hp => ?_, fun a ps hp => ?_, fun n ps hp => ?_,
    fun id params kw args hp hargs => ?_⟩
  all_goals rw [hp]
  iterate 4 rfl
  have : (kw || args.all fun kv => params.contains kv.1) = true := by
    simpa [Bool.or_eq_true, List.all_eq_true] using hargs
  exact if_pos this

example : (resolve [("control", .int 7), ("value", .int 100), ("channel", .int 3), ("note", .int 60)] []).toOption.map perform
    = some { calls := [.control (.int 7) (.int 100) (.int 3)] } := by decide +kernel
example : (resolve [("action", .a (.fn 1 ["a"] false)), ("args", .dict [("a", .int 5)])] []).toOption.map perform
    = some { calls := [.action (.a (.fn 1 ["a"] false)) [("a", .int 5)]] } := by decide +kernel
example : (resolve [("action", .a (.fn 1 [] true)), ("args", .dict [("zz", .int 5)])] []).toOption.map perform
    = some { calls := [.action (.a (.fn 1 [] true)) [("zz", .int 5)]] } := by decide +kernel

/-- where the arguments of those calls come from: the event's own keys; the channel by the usual precedence. -/
theorem resolved_arguments (d ov : Dict) (e : Event) (h : resolve d ov = .ok e) :
    (∀ c v ch, e.payload = .control c v ch →
      d.get "control" = some c ∧ d.get "value" = some v ∧ specField d ov "channel" = some ch) ∧
    (∀ p ch, e.payload = .program p ch → d.get "program_change" = some p ∧ specField d ov "channel" = some ch) ∧
    (∀ a ps, e.payload = .osc a ps → d.get "osc_address" = some a ∧
      ((d.get "osc_params" = none ∧ ps = .dict []) ∨ ∃ p, d.get "osc_params" = some p ∧ oscParams p = .ok ps)) ∧
    (∀ n ps, e.payload = .synth n ps → d.get "synth" = some n ∧
      ((d.get "params" = none ∧ ps = .dict []) ∨ d.get "params" = some ps)) ∧
    (∀ fn args, e.payload = .action fn args → d.get "action" = some fn ∧
      ((d.get "args" = none ∧ args = []) ∨ d.get "args" = some (.dict args))) := by
  obtain ⟨p, -, hpay, -, -⟩ := resolve_ok d ov e h
  have hpay := (specPayload_ok _ _ hpay).2
  -- a key that is neither a library default nor `note` is read straight from `d`; both side conditions are
  -- decided by `simp` on the list of names
  have own (k : String) (hk : k ∉ libraryDefaults.map (·.1) := by simp [libraryDefaults_keys])
      (hn : k ≠ "note" := by simp) : specFinal d ov p k = d.get k := specFinal_plain d ov p k hk hn
  have hchan : specFinal d ov p "channel" = specField d ov "channel" := finalOf_other _ _ _ (by simp)
  refine ⟨fun c v ch hp => ?_, fun pr ch hp => ?_, fun a ps hp => ?_, fun n ps hp => ?_, fun fn args hp => ?_⟩
  all_goals rw [hp] at hpay
  · rwa [own "control", own "value", hchan] at hpay
  · rwa [own "program_change", hchan] at hpay
  · rwa [own "osc_address", own "osc_params"] at hpay
  · rwa [own "synth", own "params"] at hpay
  · rwa [own "action", own "args"] at hpay

example : resolve [("program_change", .int 5)] [("channel", .int 9)]
    = .ok { payload := .program (.int 5) (.int 9), duration := .int 1, active := .bool true } := by decide +kernel

/-- one voice: it takes ITS amplitude, channel and gate (the i-th of a tuple, else the common value); it sounds
    iff amplitude and gate are positive (`None` counts as not positive); the note-on carries (note, amplitude,
    channel) and the note-off is due `duration × gate` beats later on the same (note, channel). -/
theorem voice_sounds (duration amplitude gate channel : Val) (i : Nat) (note : Atom) (a g c len : Val) (pa pg : Bool)
    (ha : pick amplitude i = .ok a) (hc : pick channel i = .ok c) (hg : pick gate i = .ok g)
    (hpa : positive a = .ok pa) (hpg : positive g = .ok pg) (hl : mulVal duration g = .ok len) :
    voice duration amplitude gate channel i note
      = .ok { calls := if pa && pg then [.noteOn (.a note) a c, .noteOffAfter len (.a note) c] else [], channel := c } := by
  unfold voice
  simp only [ha, hc, hg, hpa, hpg, hl, ok_bind, bind_pure_comp]
  cases pa <;> cases pg <;> rfl

example : voice (.flt (1/2)) (.int 90) (.tup [.flt (1/2), .int 1, .int 0]) (.tup [.int 1, .int 2, .int 3]) 0 (.int 51)
    = .ok { calls := [.noteOn (.int 51) (.int 90) (.int 1), .noteOffAfter (.flt (1/4)) (.int 51) (.int 1)], channel := .int 1 } := by
  decide +kernel
example : pick (.tup [.int 1, .int 2]) 1 = .ok (.int 2) ∧ pick (.int 7) 5 = .ok (.int 7) ∧ pick (.tup [.int 1]) 1 = .error .indexError := by
  decide

/-- the voice loop when no voice raises: started with no error recorded, it ends with none and has appended the
    calls of the voices in order; `vs` lists the results of `voice` at positions `i0`, `i0 + 1`, … -/
theorem voiceLoop_all_ok (dur amp gate chan : Val) (notes : List Atom) (vs : List Voice) (i0 : Nat) (acc : Loop)
    (hacc : acc.err = none) (hlen : notes.length = vs.length)
    (h : ∀ j (hj : j < notes.length), voice dur amp gate chan (i0 + j) notes[j] = .ok (vs[j]'(hlen ▸ hj))) :
    (voiceLoop dur amp gate chan notes i0 acc).err = none ∧
    (voiceLoop dur amp gate chan notes i0 acc).calls = acc.calls ++ (vs.map (·.calls)).flatten := by
  induction notes generalizing vs i0 acc with
  | nil =>
    cases vs with
    | nil => exact ⟨hacc, (List.append_nil _).symm⟩
    | cons _ _ => cases hlen
  | cons note rest ih =>
    cases vs with
    | nil => cases hlen
    | cons v vs' =>
      have h0 : voice dur amp gate chan i0 note = .ok v := h 0 (Nat.zero_lt_succ _)
      have := ih vs' (i0 + 1) { calls := acc.calls ++ v.calls, channel := some v.channel, err := none } rfl
        (Nat.succ.inj hlen) fun j hj => by
          have := h (j + 1) (Nat.succ_lt_succ hj)
          rwa [← Nat.add_assoc, Nat.add_right_comm] at this
      simp only [voiceLoop, h0, this, List.map_cons, List.flatten_cons, List.append_assoc, and_self]

/-- a note event (audible amplitude, no pitch bend) whose voices are all well-formed performs exactly the calls
    of its voices, in chord order — nothing else, and each voice exactly once. -/
theorem note_voices (duration amplitude gate channel : Val) (notes : List Atom) (vs : List Voice) (e : Event)
    (hact : truthy e.active = true) (hd : e.duration = duration)
    (hp : e.payload = .note (.list notes) amplitude gate channel .none)
    (haud : audible amplitude = .ok true)
    (hlen : notes.length = vs.length)
    (h : ∀ j (hj : j < notes.length), voice duration amplitude gate channel j notes[j] = .ok (vs[j]'(hlen ▸ hj))) :
    perform e = { calls := (vs.map (·.calls)).flatten } := by
  have hl := voiceLoop_all_ok duration amplitude gate channel notes vs 0
    { calls := [], channel := none, err := none } rfl hlen (by intro j hj; simpa using h j hj)
  simp only [perform, hact, Bool.not_true, Bool.false_eq_true, if_false, hp, performNote, hd, haud, notesOf, afterLoop,
    withBend, hl.1, hl.2, List.nil_append]

example : audible (.tup [.int 0, .int 5]) = .ok true ∧ audible (.int 64) = .ok true ∧ audible (.int 0) = .ok false := by decide
example : (resolve exChord []).toOption.map perform = some { calls := [
    .noteOn (.int 51) (.int 90) (.int 1), .noteOffAfter (.flt (1/4)) (.int 51) (.int 1),
    .noteOn (.int 46) (.int 90) (.int 2), .noteOffAfter (.flt (1/2)) (.int 46) (.int 2)] } := by decide +kernel

/-- what `Event.__init__` does with patterns is: pass every timeline default through `Pattern.value` (the
    defaults then stand as `pulledDefaults`), read the dictionary against those values exactly as `resolve`
    does, and pass the action arguments through `Pattern.value`. -/
theorem event_init_is_resolve (env : PatEnv) (cur : Cursor) (d ov : Dict) :
    eventInit env cur d ov =
      (checkKeys d >>= fun _ => resolve d (pulledDefaults env cur ov) >>= fun e =>
        .ok ({ e with payload := (pullPayload env e.payload (pullDefaults env (effectiveDefaults ov) cur).2).1 },
             (pullPayload env e.payload (pullDefaults env (effectiveDefaults ov) cur).2).2)) := by
  unfold eventInit resolve
  rw [effectiveDefaults_pulled]
  rfl

example : (eventInit (fun _ i => .int (10 * (i + 1))) (fun _ => 0) [("note", .int 60)] [("amplitude", .a (.pat 1))]).toOption.map (·.1)
    = (resolve [("note", .int 60)] [("amplitude", .int 10)]).toOption := by decide +kernel

/-- every pattern object is advanced once per occurrence — among the timeline defaults (all of them, used or
    not) and, for an action event, among its arguments — and by nothing else: `perform` takes no cursor, so
    performing the event cannot advance a pattern, and the callable receives the values taken here. -/
theorem args_resolved_once (env : PatEnv) (cur cur' : Cursor) (d ov : Dict) (e : Event)
    (h : eventInit env cur d ov = .ok (e, cur')) :
    ∃ e0, resolve d (pulledDefaults env cur ov) = .ok e0 ∧
      e.payload = (pullPayload env e0.payload (pullDefaults env (effectiveDefaults ov) cur).2).1 ∧
      e.duration = e0.duration ∧ e.active = e0.active ∧
      ∀ id, cur' id = cur id + patCountVals id (effectiveDefaults ov) + patCountPayload id e0.payload := by
  rw [event_init_is_resolve] at h
  simp only [bind_eq_ok, Except.ok.injEq, Prod.mk.injEq] at h
  obtain ⟨_, _, e0, he0, rfl, hc⟩ := h
  exact ⟨e0, he0, rfl, rfl, rfl, fun id => by rw [← hc, pullPayload_cursor, pullDefaults_cursor]⟩

/-- the pattern of the examples: pattern object 1 yields 10, 20, 30, ... -/
def exEnv : PatEnv := fun _ i => .int (10 * (i + 1))

example : (eventInit exEnv (fun _ => 0) [("action", .a (.fn 1 ["a", "b"] false)), ("args", .dict [("a", .pat 1), ("b", .pat 1)])]
      [("amplitude", .a (.pat 1))]).toOption.map (fun r => (r.1.payload, r.2 1))
    = some (.action (.a (.fn 1 ["a", "b"] false)) [("a", .int 20), ("b", .int 30)], 3) := by decide +kernel
example : patCountVals 1 (effectiveDefaults [("amplitude", .a (.pat 1))]) = 1 := by decide +kernel

/-- a dictionary that `Event.__init__` refuses is not played: the outcome of the track's step is the rejection,
    which carries no calls. -/
theorem rejected_plays_nothing (env : PatEnv) (cur : Cursor) (d ov : Dict) (err : Err)
    (hk : checkKeys d = .error err ∨ resolve d (pulledDefaults env cur ov) = .error err) :
    (trackEvent env cur d ov).1 = .rejected err := by
  unfold trackEvent
  rw [event_init_is_resolve]
  rcases hk with hk | hk
  · rw [hk]; rfl
  · cases hc : checkKeys d with
    | error x =>
      -- the key check fails first: then `resolve` reports the same ValueError
      have : resolve d (pulledDefaults env cur ov) = .error x := by
        unfold resolve resolveWith
        rw [hc]; rfl
      rw [this] at hk
      cases hk
      rfl
    | ok u => rw [hk]; rfl

example : (trackEvent exEnv (fun _ => 0) [("note", .int 60), ("degree", .int 1)] []).1 = .rejected .invalidEventException := by
  decide +kernel
example : (trackEvent exEnv (fun _ => 0) [("note", .int 60), ("pitch", .int 1)] []).1 = .rejected .valueError :=
  rejected_plays_nothing _ _ _ _ _ (Or.inl (by decide +kernel))

/-- the two generated renderings of `Scale.dict` (rows, and names as character lists) are aligned, so a key given
    by name gets the scale of that name. -/
theorem scale_names_aligned : Generated.scaleNameChars = Generated.scaleTable.map (·.name.toList) := by decide +kernel

example : scaleByName ['p', 'u', 'r', 'e', 'm', 'i', 'n', 'o', 'r'] = some { semitones := [0, 3, 7], octave := 12 } := by decide +kernel

/-- a voice makes either no call or a note-on followed by its scheduled note-off. -/
theorem voice_calls (duration amplitude gate channel : Val) (index : Nat) (note : Atom) (v : Voice)
    (h : voice duration amplitude gate channel index note = .ok v) :
    v.calls = [] ∨ ∃ amp chan len, v.calls = [.noteOn (.a note) amp chan, .noteOffAfter len (.a note) chan] := by
  unfold voice at h
  simp only [bind_eq_ok] at h
  obtain ⟨amp, -, chan, -, g, -, pa, -, h⟩ := h
  split at h
  · cases h
    exact .inl rfl
  · obtain ⟨pg, -, h⟩ := bind_eq_ok.1 h
    split at h
    · cases h
      exact .inl rfl
    · obtain ⟨len, -, h⟩ := bind_eq_ok.1 h
      cases h
      exact .inr ⟨_, _, _, rfl⟩

/-- the calls of the voice loop: whatever was there, then per voice nothing or note-on + note-off; if it added
    anything, it added a note-on. -/
theorem voiceLoop_calls (duration amplitude gate channel : Val) (notes : List Atom) (index : Nat) (acc : Loop) :
    ∃ added, (voiceLoop duration amplitude gate channel notes index acc).calls = acc.calls ++ added ∧
      (added = [] ∨ ∃ n a c, Call.noteOn n a c ∈ added) ∧ ∀ v ch, Call.pitchBend v ch ∉ added := by
  induction notes generalizing index acc with
  | nil => exact ⟨[], (List.append_nil _).symm, .inl rfl, fun _ _ => List.not_mem_nil⟩
  | cons note rest ih =>
    rw [voiceLoop]
    cases hv : voice duration amplitude gate channel index note with
    | error e => exact ⟨[], (List.append_nil _).symm, .inl rfl, fun _ _ => List.not_mem_nil⟩
    | ok v =>
      obtain ⟨added, h1, h2, h3⟩ := ih (index + 1) ⟨acc.calls ++ v.calls, some v.channel, none⟩
      rcases voice_calls _ _ _ _ _ _ _ hv with hc | ⟨amp, chan, len, hc⟩
      · exact ⟨added, by rw [h1, hc, List.append_nil], h2, h3⟩
      · refine ⟨v.calls ++ added, by rw [h1, List.append_assoc], .inr ⟨.a note, amp, chan, by simp [hc]⟩, ?_⟩
        simpa [hc] using h3

/-- after the loop nothing is added, or one pitch bend to a call list that was not empty. -/
theorem afterLoop_calls (l : Loop) (pb : Val) :
    (afterLoop l pb).calls = l.calls ∨ (l.calls ≠ [] ∧ ∃ ch, (afterLoop l pb).calls = l.calls ++ [.pitchBend pb ch]) := by
  unfold afterLoop withBend
  split
  · exact .inl rfl
  · split
    · exact .inl rfl
    · split
      · exact .inl rfl
      · next hne =>
        split
        · exact .inr ⟨fun he => hne (by rw [he]; rfl), _, rfl⟩
        · exact .inl rfl

/-- a note event that plays no voice sends nothing at all; a pitch bend goes out only together with a note-on
    (rests, zero amplitude, zero gate — scalar or per voice — produce no message, whatever other keys the event
    has). The clause C02 shares with this model. -/
theorem pitch_bend_only_with_a_note_on (duration note amplitude gate channel pitchbend : Val) (v ch : Val)
    (h : Call.pitchBend v ch ∈ (performNote duration note amplitude gate channel pitchbend).calls) :
    ∃ n a c, Call.noteOn n a c ∈ (performNote duration note amplitude gate channel pitchbend).calls := by
  unfold performNote at h ⊢
  split at h
  · cases h
  · cases h
  split at h
  · cases h
  obtain ⟨added, h1, h2, h3⟩ := voiceLoop_calls duration amplitude gate channel ‹List Atom› 0 ⟨[], none, none⟩
  generalize voiceLoop .. = l at h h1 ⊢
  rw [List.nil_append] at h1
  rcases afterLoop_calls l pitchbend with hc | ⟨hne, ch', hc⟩
  · rw [hc, h1] at h
    exact absurd h (h3 v ch)
  · rcases h2 with rfl | ⟨n, a, c, h2⟩
    · exact absurd h1 hne
    · exact ⟨n, a, c, hc ▸ List.mem_append_left _ (h1 ▸ h2)⟩

/-- the step after the voice loop adds nothing to an empty call list, whatever the pitch bend: `l` is any loop
    record, in `performNote` the one the voice loop returns (no call there means every voice was a rest or had
    zero amplitude or gate). -/
theorem silent_note_sends_nothing (l : Loop) (pitchbend : Val) (h : l.calls = []) : (afterLoop l pitchbend).calls = [] := by
  rcases afterLoop_calls l pitchbend with hc | ⟨hne, _, _⟩
  · rw [hc, h]
  · exact absurd h hne

end IsobarV.C03
