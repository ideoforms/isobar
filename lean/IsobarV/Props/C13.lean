/-
Property C13 — keys and scales map degrees to in-key notes; the nearest note is nearest; note names
and MIDI numbers convert back and forth without loss.

All theorems are about the executable model `IsobarV/Tonal/Model.lean` (the code after fix 01) and hold
for EVERY scale satisfying the stated hypothesis, every integer tonic, note and degree — no bound:

  `Scale.Valid`  non-empty semitone list, positive octave size   (what the Python code needs not to raise)
  `Scale.WF`     Valid + strictly ascending semitones inside [0, octave)

`builtin_scales_wf` is decided by the kernel over the scale table GENERATED from the repository, so the
general theorems apply to every built-in scale × every tonic × every note × every degree.
`InKey` is the independent pitch-class-set specification (tonic + a semitone of the scale + whole octaves).
-/
import IsobarV.Tonal.Lemmas

namespace IsobarV.C13
open IsobarV.Tonal

/-- the key used in the non-vacuity examples: C# "pureminor", which does not contain pitch class 0 -/
def exKey : Key := { tonic := 1, scale := { semitones := [0, 3, 7], octave := 12 } }

example : exKey.scale.WF := by decide +kernel
example : exKey.scale.Valid := by decide +kernel

/-- the membership test is the pitch-class-set specification: `x in key` iff
    `x = tonic + s + octave · m` for a semitone `s` of the scale and an integer `m` -/
theorem contains_iff_pitch_class (k : Key) (hN : 0 < k.scale.octave) (x : Int) :
    k.contains x = true ↔ InKey k x := by
  rw [contains_iff_mem hN, mem_keySemitones hN]
  refine exists_congr fun s => and_congr_right fun _ => ?_
  rw [emod_eq_emod_iff_exists, Int.add_comm s]

/-- membership depends only on the pitch class (remainder modulo the octave size) -/
theorem contains_pitch_class_only (k : Key) (hN : 0 < k.scale.octave) (x y : Int)
    (h : x % k.scale.octave = y % k.scale.octave) : k.contains x = k.contains y := contains_congr hN h

/-- … in particular it is invariant under transposition by whole octaves -/
theorem contains_octave_shift (k : Key) (hN : 0 < k.scale.octave) (x m : Int) :
    k.contains (x + k.scale.octave * m) = k.contains x :=
  contains_pitch_class_only k hN _ _ (Int.add_mul_emod_self_left x _ m)

example : exKey.contains 4 = true ∧ exKey.contains (4 + 12 * (-3)) = true ∧ exKey.contains 5 = false := by decide +kernel
example : InKey exKey 16 := (contains_iff_pitch_class exKey (by decide) 16).mp (by decide)

/-- a rest is always in key -/
theorem rest_in_key (k : Key) : k.containsOpt none = true := rfl

example : exKey.containsOpt none = true := rest_in_key exKey

/-- `key[d] = tonic + scale[r] + octave · q` for THE floor decomposition `d = n·q + r`, `0 ≤ r < n`
    (`n` = number of semitones); negative degrees have negative `q`, i.e. they descend. -/
theorem degree_formula (k : Key) (hne : k.scale.semitones ≠ []) (d q r : Int)
    (hr0 : 0 ≤ r) (hr1 : r < k.scale.semitones.length) (hd : d = k.scale.semitones.length * q + r) :
    k.get d = k.tonic + k.scale.semitones.getD r.toNat 0 + k.scale.octave * q := by
  have h := (Int.ediv_emod_unique (a := d) (q := q) (Scale.len_pos hne)).mpr ⟨(Int.add_comm _ _).trans hd.symm, hr0, hr1⟩
  rw [Key.get, scale_get_eq hne, h.1, h.2]
  omega

/-- the same with the floor quotient and remainder written out (`Int.fdiv`/`Int.fmod` round towards −∞). -/
theorem degree_formula_floor (k : Key) (d : Int) :
    k.get d = k.tonic + k.scale.semitones.getD (d.fmod k.scale.semitones.length).toNat 0
                + k.scale.octave * d.fdiv k.scale.semitones.length := by
  simp only [Key.get, Scale.get, pyDiv, pyMod, Scale.len]
  omega

example : exKey.get 4 = 1 + 3 + 12 * 1 := by decide +kernel
example : exKey.get (-1) = 1 + 7 + 12 * (-1) := by decide +kernel   -- negative degrees descend
example : exKey.get (-4) = exKey.tonic + [0, 3, 7].getD (2 : Int).toNat 0 + exKey.scale.octave * (-2) :=
  degree_formula exKey (by decide) (-4) (-2) 2 (by decide) (by decide) (by decide)

/-- for an ascending scale the degree → note map is strictly increasing over all integers -/
theorem degree_strict_mono (k : Key) (h : k.scale.WF) {d e : Int} (hde : d < e) : k.get d < k.get e := by
  unfold Key.get
  have := scale_get_strictMono h hde
  omega

example : exKey.get (-1) < exKey.get 0 := degree_strict_mono exKey (by decide) (by decide)
example : exKey.get (-1) = -4 ∧ exKey.get 0 = 1 := by decide +kernel

/-- every degree of a key is a member of the key (model's membership test) -/
theorem degree_in_key (k : Key) (h : k.scale.Valid) (d : Int) : k.contains (k.get d) = true := by
  obtain ⟨hne, hN⟩ := h
  rw [contains_iff_pitch_class k hN]
  refine ⟨_, degree_semitone_mem hne d, d / k.scale.len, ?_⟩
  unfold Key.get
  rw [scale_get_eq hne]
  omega

example : exKey.contains (exKey.get (-5)) = true := degree_in_key exKey (by decide) (-5)
example : exKey.get (-5) = -20 := by decide +kernel

/-- conversely every member of the key is some degree: the key is exactly the set of its degrees -/
theorem in_key_is_degree (k : Key) (h : k.scale.Valid) (x : Int) (hx : k.contains x = true) :
    ∃ d : Int, k.get d = x := by
  obtain ⟨hne, hN⟩ := h
  obtain ⟨s, hs, m, rfl⟩ := (contains_iff_pitch_class k hN x).mp hx
  obtain ⟨i, hi, rfl⟩ := List.getElem_of_mem hs
  refine ⟨k.scale.semitones.length * m + i, ?_⟩
  rw [degree_formula k hne _ m i (by omega) (by omega) rfl, Int.toNat_natCast, ← List.getElem_eq_getD]

example : ∃ d : Int, exKey.get d = 16 := in_key_is_degree exKey (by decide) 16 (by decide)

/-- a note of the key is its own nearest note (snapping is idempotent) -/
theorem nearest_of_in_key (k : Key) (x : Int) (hx : k.contains x = true) : k.nearestNote x = x := by
  unfold Key.nearestNote; rw [if_pos hx]

/-- the nearest note is in the key -/
theorem nearest_in_key (k : Key) (h : k.scale.Valid) (x : Int) : k.contains (k.nearestNote x) = true := by
  cases hx : k.contains x with
  | true => rw [nearest_of_in_key k x hx, hx]
  | false =>
    obtain ⟨b, hb, heq, _⟩ := nearestNote_of_not_contains h hx
    rw [heq, contains_congr h.2 (Int.mul_add_emod_self_right _ _ _)]
    exact candidates_contains h hb

/-- no in-key integer is strictly closer to `x` than the nearest note -/
theorem nearest_is_nearest (k : Key) (h : k.scale.Valid) (x y : Int) (hy : k.contains y = true) :
    (k.nearestNote x - x).natAbs ≤ (y - x).natAbs := by
  cases hx : k.contains x with
  | true => rw [nearest_of_in_key k x hx]; omega
  | false =>
    obtain ⟨b, _, heq, hmin⟩ := nearestNote_of_not_contains h hx
    obtain ⟨c, hc, hcy⟩ := candidate_covers h x hy
    have hx' := Int.ediv_mul_add_emod x k.scale.octave
    rw [show k.nearestNote x - x = b - x % k.scale.octave by omega]
    exact pyAbs_le_iff.mp (Int.le_trans (hmin c hc) hcy)

example : exKey.nearestNote 11 = 13 := by decide +kernel      -- the unrepaired code answered 12, which is not in the key
example : exKey.contains 12 = false ∧ exKey.contains 13 = true := by decide +kernel
example : exKey.contains (exKey.nearestNote 11) = true := nearest_in_key exKey (by decide) 11
example : (exKey.nearestNote 0 - 0).natAbs ≤ ((-4 : Int) - 0).natAbs :=
  nearest_is_nearest exKey (by decide) 0 (-4) (by decide)
example : exKey.nearestNote 0 = 1 ∧ exKey.nearestNote (-1) = 1 ∧ exKey.nearestNote (-2) = -4 := by decide +kernel

/-- PFilterByKey never lets an out-of-key note through: every note it emits is a note of the input melody
    and in the key -/
theorem filter_passes_only_in_key (k : Key) (melody : List (Option Int)) (v : Int)
    (hv : some v ∈ filterMelody k melody) : k.contains v = true ∧ some v ∈ melody := by
  unfold filterMelody at hv
  obtain ⟨a, ha, hav⟩ := List.mem_map.mp hv
  unfold pFilterByKey at hav
  split at hav
  · rename_i hc
    subst hav
    exact ⟨hc, ha⟩
  · cases hav

/-- … position by position: an in-key note (or a rest) passes unchanged, anything else becomes a rest -/
theorem filter_pointwise (k : Key) (melody : List (Option Int)) (i : Nat) :
    (filterMelody k melody)[i]? =
      (melody[i]?).map (fun x => if k.containsOpt x = true then x else none) := by
  unfold filterMelody
  rw [List.getElem?_map]
  rfl

example : filterMelody exKey [some 0, some 1, none, some 4, some 12, some 13] =
    [none, some 1, none, some 4, none, some 13] := by decide +kernel

/-- PNearestNoteInKey emits only in-key notes … -/
theorem snap_in_key (k : Key) (h : k.scale.Valid) (melody : List (Option Int)) (out : Option Int)
    (ho : out ∈ snapMelody k melody) : k.containsOpt out = true := by
  unfold snapMelody at ho
  obtain ⟨a, _, rfl⟩ := List.mem_map.mp ho
  cases a with
  | none => rfl
  | some x => exact nearest_in_key k h x

/-- … position by position: `nearest_note` of the corresponding input (a rest stays a rest) -/
theorem snap_pointwise (k : Key) (melody : List (Option Int)) (i : Nat) :
    (snapMelody k melody)[i]? = (melody[i]?).map (fun x => x.map k.nearestNote) := by
  unfold snapMelody
  rw [List.getElem?_map]
  congr 1
  funext x
  cases x <;> rfl

/-- snapping a melody: at every position holding a note the output is an in-key note and no in-key note
    is strictly closer to the input -/
theorem snap_is_nearest (k : Key) (h : k.scale.Valid) (melody : List (Option Int)) (i : Nat) (x : Int)
    (hx : melody[i]? = some (some x)) :
    ∃ z : Int, (snapMelody k melody)[i]? = some (some z) ∧ k.contains z = true ∧
      ∀ y : Int, k.contains y = true → (z - x).natAbs ≤ (y - x).natAbs := by
  refine ⟨k.nearestNote x, ?_, nearest_in_key k h x, fun y hy => nearest_is_nearest k h x y hy⟩
  rw [snap_pointwise, hx]
  rfl

example : snapMelody exKey [some 0, some 11, none, some 6] = [some 1, some 13, none, some 4] := by decide +kernel

/-- every scale of `Scale.dict` (the table is generated from the repository on every run) is well-formed -/
theorem builtin_scales_wf :
    ∀ r ∈ Generated.scaleTable, ({ semitones := r.semitones, octave := r.octave } : Scale).WF := by
  decide +kernel

example : Generated.scaleTable.length ≥ 21 := by decide +kernel

/-- hence, for every built-in scale on every tonic: degrees are strictly increasing and in key, the
    nearest note is in key and nearest -/
theorem builtin_keys_sound (r : Generated.ScaleRow) (hr : r ∈ Generated.scaleTable) (tonic : Int) :
    let k : Key := { tonic := tonic, scale := { semitones := r.semitones, octave := r.octave } }
    (∀ d e : Int, d < e → k.get d < k.get e) ∧
    (∀ d : Int, k.contains (k.get d) = true) ∧
    (∀ x : Int, k.contains (k.nearestNote x) = true) ∧
    (∀ x y : Int, k.contains y = true → (k.nearestNote x - x).natAbs ≤ (y - x).natAbs) := by
  intro k
  have hwf : k.scale.WF := builtin_scales_wf r hr
  exact ⟨fun _ _ h => degree_strict_mono k hwf h, degree_in_key k hwf.valid,
         nearest_in_key k hwf.valid, nearest_is_nearest k hwf.valid⟩

example : (Generated.scaleTable.map (·.semitones)).contains [0, 3, 7] = true := by decide +kernel

/-- name → MIDI number for every spelling (sharp or flat) of every pitch class in every octave −1 … 9 -/
theorem name_to_midi_all_spellings :
    ∀ pc : Nat, pc < Generated.noteNames.length → ∀ o : Nat, o < 11 →
      ∀ spelling ∈ Generated.noteNames.getD pc [],
        noteNameToMidiNote (spelling ++ fmtInt ((o : Int) - 1)) = NameRes.ok ((o : Int) * 12 + pc) := by
  decide +kernel

/-- … also when written in lower case (`capitalize`) -/
theorem name_to_midi_lowercase :
    ∀ pc : Nat, pc < Generated.noteNames.length → ∀ o : Nat, o < 11 →
      ∀ spelling ∈ Generated.noteNames.getD pc [],
        noteNameToMidiNote (spelling.map asciiLower ++ fmtInt ((o : Int) - 1)) = NameRes.ok ((o : Int) * 12 + pc) := by
  decide +kernel

/-- MIDI number → name on `o * 12 + pc`, the number of every spelling of pitch class `pc` in octave `o − 1`
    (`name_to_midi_all_spellings`), when it is in the MIDI range: the canonical (first) spelling of that pitch
    class and octave.  So name → number → name changes at most the sharp/flat spelling, never the pitch. -/
theorem name_roundtrip_back :
    ∀ pc : Nat, pc < Generated.noteNames.length → ∀ o : Nat, o < 11 → o * 12 + pc < 128 →
      midiNoteToNoteName ((o : Int) * 12 + pc) =
        some ((Generated.noteNames.getD pc []).headD [] ++ fmtInt ((o : Int) - 1)) := by
  intro pc hpc o _ h
  -- `o * 12 + pc` has quotient `o` and remainder `pc` by the number of pitch classes, which is 12
  have hlen : (0 : Int) < Generated.noteNames.length := by decide
  have h0 : (0 : Int) ≤ o * 12 + pc := Int.natCast_nonneg (o * 12 + pc)
  have hq := (Int.ediv_emod_unique (a := (o : Int) * 12 + pc) (q := o) (r := pc) hlen).mpr
    ⟨by rw [Int.mul_comm, Int.add_comm]; rfl, Int.natCast_nonneg pc, Int.ofNat_lt.mpr hpc⟩
  unfold midiNoteToNoteName
  rw [if_neg (by omega)]
  simp only [pyMod_of_pos _ hlen, Int.tdiv_eq_ediv_of_nonneg h0, hq, Int.toNat_natCast]

/-- MIDI number → name → MIDI number is the identity on the whole MIDI range: the name of `n` is the
    canonical spelling of pitch class `n % 12` in octave `n / 12 - 1`, which reads back as `n` -/
theorem name_roundtrip :
    ∀ n : Nat, n < 128 →
      (midiNoteToNoteName (n : Int)).map noteNameToMidiNote = some (NameRes.ok (n : Int)) := by
  intro n hn
  have hpc : n % 12 < Generated.noteNames.length := Nat.mod_lt n (by decide)
  have hn' : (n : Int) = ((n / 12 : Nat) : Int) * 12 + (n % 12 : Nat) := by omega
  have hhead : ∀ pc : Nat, pc < Generated.noteNames.length →
      (Generated.noteNames.getD pc []).headD [] ∈ Generated.noteNames.getD pc [] := by decide +kernel
  rw [hn', name_roundtrip_back _ hpc (n / 12) (by omega) (by omega), Option.map_some,
    name_to_midi_all_spellings _ hpc (n / 12) (by omega) _ (hhead _ hpc)]

/-- a name without octave maps to the pitch class 0 … 11 -/
theorem name_without_octave :
    ∀ pc : Nat, pc < Generated.noteNames.length →
      ∀ spelling ∈ Generated.noteNames.getD pc [], noteNameToMidiNote spelling = NameRes.ok pc := by
  decide +kernel

/-- outside 0 … 127 there is no name (`InvalidMIDIPitch`) -/
theorem name_out_of_range (n : Int) (h : n < 0 ∨ 127 < n) : midiNoteToNoteName n = none := by
  unfold midiNoteToNoteName
  simp [h]

example : midiNoteToNoteName 61 = some ['C', '#', '4'] := by decide +kernel
example : noteNameToMidiNote ['D', 'b', '4'] = NameRes.ok 61 := by decide +kernel
example : noteNameToMidiNote ['C', '-', '1'] = NameRes.ok 0 := by decide +kernel
example : midiNoteToNoteName 127 = some ['G', '9'] := by decide +kernel
example : midiNoteToNoteName 128 = none := name_out_of_range 128 (by decide)
example : noteNameToMidiNote ['H'] = NameRes.unknownNoteName := by decide +kernel

end IsobarV.C13
