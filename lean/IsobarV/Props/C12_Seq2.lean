/-
C12 — pattern-valued parameters are resolved afresh at every step: consumption lemmas for the classes of
`IsobarV/Pat/Cls/Seq2.lean`.  Registry pairs: PInterpolate.steps (once per block), PEuclidean.length and
PEuclidean.mod (once per step, `length` first), PCollapse.input (resolved through `Pattern.value`: one value per
step unless it is a rest, which is skipped), and the two inputs of PReset (once per step, trigger first).
All statements hold for an ARBITRARY semantics `rec` of the sub-patterns, hence at every nesting depth.
-/
import IsobarV.Pat.Cls.Seq2Lemmas

namespace IsobarV.C12
open IsobarV.Pat

/-- **`PEuclidean.length` and `PEuclidean.mod` are resolved exactly once per step** (`length` first): after a step
    in which both yielded a value — whatever the step then returns — each is exactly one `rec`-step further.  If
    `length` ends, `mod` is not consumed. -/
theorem euclidean_params_once (rec : Rec) (km kl : Pat) (st : St) :
    (∀ lv mv, (rec kl).out = .val lv → (rec km).out = .val mv →
      (stepEuclidean rec [km, kl] st).kids = [(rec km).p, (rec kl).p]) ∧
    ((∀ v, (rec kl).out ≠ .val v) →
      (stepEuclidean rec [km, kl] st).out = (rec kl).out ∧ (stepEuclidean rec [km, kl] st).kids = [km, (rec kl).p]) := by
  constructor
  · intro lv mv hl hm
    rw [stepEuclidean_vals (kids := [km, kl]) st hl hm]
    split
    · exact (euclidEmit_spec _ _ _).1
    · rfl
  · intro ho
    rw [stepEuclidean_length_ended (kids := [km, kl]) st ho]
    exact ⟨rfl, rfl⟩

/-- The value returned by a step is the element at `pos` of the rhythm computed from THIS step's `length` and `mod`
    (re-targeting or varying either parameter takes effect at the very next step). -/
theorem euclidean_uses_current_params (rec : Rec) (km kl : Pat) (st : St) (lv mv : Val) (seq : List Bool)
    (hl : (rec kl).out = .val lv) (hm : (rec km).out = .val mv) (hs : euclidSeq lv mv = some seq) :
    stepEuclidean rec [km, kl] st = euclidEmit [(rec km).p, (rec kl).p] st seq := by
  rw [stepEuclidean_vals (kids := [km, kl]) st hl hm, hs]
  rfl

/-- **`PInterpolate.steps` is resolved once per block**: at a block boundary (`pos == len(step_values)`), when
    `steps` yields a non-zero count and the input yields the next target, the step reads `steps` once and the
    input once, whatever the interpolation mode then computes. -/
theorem interpolate_steps_once_per_block (rec : Rec) (kp ks : Pat) (st : St) (s target : Val) (k : Int)
    (hinit : st.n1 ≠ 0) (hpos : st.n2 = st.buf.length)
    (hs : (rec ks).out = .val s) (hk : pyInt s = .val (.a (.int k))) (hk0 : k ≠ 0) (ht : (rec kp).out = .val target) :
    (stepInterpolate rec [kp, ks] st).kids = [(rec kp).p, (rec ks).p] := by
  have hskip : interpSkip rec LOOPFUEL [kp, ks] st.v0 = (.val (.a (.int k)), [kp, (rec ks).p], st.v0) :=
    (interpSkip_nonzero (kids := [kp, ks]) 99999 st.v0 hs (hk ▸ fun h => hk0 (by cases h; rfl))).trans (by rw [hk]; rfl)
  exact (stepInterpolate_block hinit hpos hskip rfl rfl ht).1

/-- **… and not at all inside a block**: while `pos < len(step_values)` a step touches neither `steps` nor the
    input (so one value of `steps` governs exactly one block: never skipped, never read twice). -/
theorem interpolate_steps_untouched_within_block (rec : Rec) (kids : List Pat) (st : St)
    (hinit : st.n1 ≠ 0) (hpos : st.n2 ≠ st.buf.length) :
    (stepInterpolate rec kids st).kids = kids :=
  (stepInterpolate_within rec kids hinit hpos).1

/-- A zero step count consumes one further input value (the new start value) and one further `steps` value:
    the loop `while vsteps == 0` reads them alternately. -/
theorem interpSkip_zero (rec : Rec) (f : Nat) (kp ks : Pat) (cur s v : Val)
    (hs : (rec ks).out = .val s) (hk : pyInt s = .val (.a (.int 0))) (hv : (rec kp).out = .val v) :
    interpSkip rec (f + 1) [kp, ks] cur = interpSkip rec f [(rec kp).p, (rec ks).p] v := by
  simp only [interpSkip, stepKid, List.getElem?_cons_succ, List.getElem?_cons_zero, List.set_cons_succ,
    List.set_cons_zero, hs, hk, hv]

/-- `PCollapse.input` (a scalar, a constant or any pattern): a non-rest value is passed on and the input is exactly
    one step further; a rest is skipped and the next value is resolved. -/
theorem collapse_input_consumed (rec : Rec) (a : Pat) (st : St) (v : Val) (h : (rec a).out = .val v) :
    (v ≠ Val.none → (stepCollapse rec [a] st).out = .val v ∧ (stepCollapse rec [a] st).kids = [(rec a).p]) ∧
    (v = Val.none → ∀ f, collapseLoop rec (f + 1) [a] = collapseLoop rec f [(rec a).p]) := by
  constructor
  · intro hv
    have hl : collapseLoop rec LOOPFUEL [a] = stepKid rec [a] 0 :=
      collapseLoop_pass (kids := [a]) 99999 fun e => hv (by cases h.symm.trans e; rfl)
    exact ⟨(congrArg (·.1) hl).trans h, congrArg (·.2) hl⟩
  · intro hv f
    exact collapseLoop_rest (kids := [a]) f (h.trans (by rw [hv]; rfl))

/-- **`PReset` resolves its trigger and its pattern once per step, trigger first**; a positive trigger resets the
    pattern before it is stepped (so the reset takes effect at this very step). -/
theorem preset_inputs_once (rs : Pat → Pat) (rec : Rec) (p t : Pat) (st : St) (tv : Val) (ht : (rec t).out = .val tv) :
    (trigPos tv = some false →
      (stepResetW rs rec [p, t] st).out = (rec p).out ∧ (stepResetW rs rec [p, t] st).kids = [(rec p).p, (rec t).p]) ∧
    (trigPos tv = some true →
      (stepResetW rs rec [p, t] st).out = (rec (rs p)).out ∧ (stepResetW rs rec [p, t] st).kids = [(rec (rs p)).p, (rec t).p]) := by
  constructor <;> intro h <;> rw [stepResetW_val (kids := [p, t]) rs st ht, h] <;> exact ⟨rfl, rfl⟩

section Example
def cI (i : Int) : Pat := Pat.const (.int i)
def sqI (xs : List Int) (rep : Int) : Pat := .node .seq (xs.map cI) { n0 := rep }
-- PEuclidean(3, PSequence([8, 4])): `length` alternates, the position runs on
example : clsOuts stepEuclidean (stepF 5) 4 [cI 3, sqI [8, 4] (-1)] {} =
    [.val (.int 1), .val (.int 1), .val Val.none, .val Val.none] := by decide +kernel
-- PInterpolate(PSequence([0, 4, 0]), PSequence([2, 4]), linear): one `steps` value per segment
example : clsOuts stepInterpolate (stepF 5) 8 [sqI [0, 4, 0] 1, sqI [2, 4] (-1)] { n0 := 1 } =
    [.val (.int 0), .val (.flt 2), .val (.flt 4), .val (.flt 3), .val (.flt 2), .val (.flt 1), .val (.flt 0), .stop] := by decide +kernel
end Example

end IsobarV.C12
