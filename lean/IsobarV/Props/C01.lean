/-
C01 — event onsets fall on the exact tick of their cumulative duration, drift-free.

Statements are about the clock part of `Track.tick` in the scheduler model
(`clockTick` = the pull loop `while round(current_time) >= round(next_event_time)` + the time
increment; `IsobarV.Sched.Onset`), for EVERY tick resolution `q ≥ 1` (units per tick), EVERY stream of
durations `d i ≥ q` (on or off the tick grid), EVERY run length `j`, from ANY playing state whose next
event is not overdue by a whole tick (in particular right after `Track.start`, and right after a
`nudge` that does not skip events).
-/
import IsobarV.Sched.Onset
import IsobarV.Sched.Solo

namespace IsobarV.C01
open IsobarV.Sched

/-- The closed form from the invariant alone: which event a state satisfying it performs in its next tick. -/
theorem fired_iff_of_inv {W : World} {q sid c p0 : Nat} {N : Int} {d : Nat → Nat} {j : Nat} {u : Track}
    (hd : ∀ i, q ≤ d i) (hW : HasDurs W sid d) (hinv : OnsetInv q sid c p0 N d j u) (k : Nat) :
    fired W q u = some k ↔ (p0 ≤ k ∧ FirstTick q (N + ((S d k : Int) - S d p0)) (c + j)) := by
  have hf := (onset_step hd hW hinv).2
  obtain ⟨hcur, hpos, hnxt, hg, _, _, hpast⟩ := hinv
  rw [hf]
  constructor
  · intro h
    split at h
    · rename_i hdue
      cases h
      exact ⟨hpos, by simp only [FirstTick, ← hcur, ← hnxt]; exact ⟨hdue, hg⟩⟩
    · cases h
  · rintro ⟨hk0, hft⟩
    rcases Nat.lt_trichotomy k u.pos with hlt | heq | hgt
    · obtain ⟨j', hj', hf'⟩ := hpast k hk0 hlt
      have := hft.unique hf'
      omega
    · subst heq
      have hdue : u.nxt ≤ tm q u.cur := by rw [hnxt, hcur]; exact hft.1
      simp [hdue]
    · exfalso
      have := S_lt hd hgt
      obtain ⟨h1, _⟩ := hft
      rw [hcur] at hg
      omega

/-- **Closed form.**  Event `k` (counted in its stream) is performed in local tick `t0.cur + j` iff that
    is the first tick at or after its ideal time `t0.nxt + (S d k − S d t0.pos)`, the exact sum of the
    preceding durations — for every `j` and `k`; in particular it is performed in exactly one tick and
    no other event is performed in that tick. -/
theorem onset_closed_form {W : World} {q : Nat} {d : Nat → Nat} {t0 : Track}
    (hd : ∀ i, q ≤ d i) (hW : HasDurs W t0.sid d) (hmax : t0.maxCount = 0)
    (hguard : tm q t0.cur - q < t0.nxt) (j k : Nat) :
    fired W q (clockRun W q t0 j) = some k ↔
      (t0.pos ≤ k ∧ FirstTick q (t0.nxt + ((S d k : Int) - S d t0.pos)) (t0.cur + j)) :=
  fired_iff_of_inv hd hW (onset_run hd hW (onsetInv_init q d t0 hmax hguard) j) k

/-- `FirstTick` on the grid of a fresh start is the ceiling: with `T` units after a start at local
    tick `c`, the first tick at or after it is `c + ⌈T / q⌉`. -/
theorem firstTick_iff_cdiv (q c T j : Nat) (hq : 0 < q) :
    FirstTick q (tm q c + T) (c + j) ↔ j = cdiv T q := by
  have hadd : tm q (c + j) = tm q c + ((j * q : Nat) : Int) := by rw [tm, Nat.add_mul, Int.natCast_add]; rfl
  -- `j = ⌊(T + q - 1) / q⌋` says `j * q ≤ T + q - 1 ≤ j * q + q - 1`
  rw [FirstTick, hadd, eq_comm, cdiv, Nat.div_eq_iff hq]
  omega

/-- **From a start.**  A track started at local tick `c` (`Track.start` sets `next_event_time` to the
    current time) performs its `k`-th event exactly `⌈S d k / q⌉` ticks later — each event rounded up
    to the tick grid on its own. -/
theorem onset_from_start {W : World} {q : Nat} {d : Nat → Nat} {t0 : Track} (hq : 0 < q)
    (hd : ∀ i, q ≤ d i) (hW : HasDurs W t0.sid d) (hmax : t0.maxCount = 0)
    (hstart : t0.nxt = tm q t0.cur) (hpos : t0.pos = 0) (j k : Nat) :
    fired W q (clockRun W q t0 j) = some k ↔ j = cdiv (S d k) q := by
  have hguard : tm q t0.cur - q < t0.nxt := by omega
  rw [onset_closed_form hd hW hmax hguard j k, hstart, hpos]
  have : tm q t0.cur + ((S d k : Int) - (S d 0 : Nat)) = tm q t0.cur + (S d k : Nat) := by simp [S]
  rw [this, firstTick_iff_cdiv q t0.cur (S d k) j hq]
  simp

/-- **No drift.**  The distance between the tick an event is performed in and its ideal time is in
    `[0, q)` whatever came before: the rounding error does not grow with `k` or with the run length. -/
theorem no_drift {q : Nat} {T : Int} {j : Nat} (h : FirstTick q T j) : 0 ≤ tm q j - T ∧ tm q j - T < q := by
  obtain ⟨a, b⟩ := h; constructor <;> omega

/-- **Rounding never accumulates.**  The tick of an event depends on its ideal time alone: two tracks
    (different streams, different earlier durations, different histories of roundings) whose events
    have the same ideal time perform them in the same tick. -/
theorem rounding_independent {W W' : World} {q : Nat} {d d' : Nat → Nat} {t0 t0' : Track}
    (hd : ∀ i, q ≤ d i) (hd' : ∀ i, q ≤ d' i) (hW : HasDurs W t0.sid d) (hW' : HasDurs W' t0'.sid d')
    (hmax : t0.maxCount = 0) (hmax' : t0'.maxCount = 0)
    (hg : tm q t0.cur - q < t0.nxt) (hg' : tm q t0'.cur - q < t0'.nxt)
    (j j' k k' : Nat)
    (hsame : t0.nxt + ((S d k : Int) - S d t0.pos) = t0'.nxt + ((S d' k' : Int) - S d' t0'.pos))
    (hf : fired W q (clockRun W q t0 j) = some k) (hf' : fired W' q (clockRun W' q t0' j') = some k') :
    t0.cur + j = t0'.cur + j' := by
  have h1 := ((onset_closed_form hd hW hmax hg j k).mp hf).2
  have h2 := ((onset_closed_form hd' hW' hmax' hg' j' k').mp hf').2
  rw [hsame] at h1
  exact h1.unique h2

/-- **Nudge.**  `Track.nudge x` adds `x` to `next_event_time`.  If the nudged time is still not
    overdue by a whole tick (otherwise events are skipped, see the example below), every later event
    `k` is performed on the first tick at or after its old ideal time plus exactly `x`. -/
theorem nudge_shift {W : World} {q : Nat} {d : Nat → Nat} {t : Track} (x : Int)
    (hd : ∀ i, q ≤ d i) (hW : HasDurs W t.sid d) (hmax : t.maxCount = 0)
    (hguard : tm q t.cur - q < t.nxt + x) (j k : Nat) :
    fired W q (clockRun W q { t with nxt := t.nxt + x } j) = some k ↔
      (t.pos ≤ k ∧ FirstTick q ((t.nxt + ((S d k : Int) - S d t.pos)) + x) (t.cur + j)) := by
  have := onset_closed_form (t0 := { t with nxt := t.nxt + x }) hd hW hmax hguard j k
  rw [this]
  have e : t.nxt + x + ((S d k : Int) - S d t.pos) = t.nxt + ((S d k : Int) - S d t.pos) + x := by omega
  simp only [e]

/-- The local time of a playing track advances by exactly one tick per tick. -/
theorem local_time_advances (W : World) (q : Nat) (t : Track) : (clockTick W q t).cur = t.cur + 1 := by
  unfold clockTick
  split
  · obtain ⟨_, _, _, h⟩ := pullLoop_frame W q (t.fuel q) t .stop
    rw [h]
  · rfl

/-- The clock fields of a track record. -/
def clockOf (t : Track) : Nat × Int × Nat × Nat × Nat := (t.cur, t.nxt, t.pos, t.sid, t.count)

theorem performSolo_clock (q : Nat) (t : Track) (a : Bool) (k : EvKind) :
    clockOf (performSolo q t a k).t = clockOf t := by
  obtain ⟨os, h, _⟩ := performSolo_frame q t a k
  rw [h]; rfl

/-- **The closed form is about the track as it runs in the timeline.**  In a tick that ends normally
    the per-track tick function (`soloTick`, by `C07.non_interference` the way a track evolves inside a
    timeline tick) moves the clock fields of a playing track exactly as `clockTick` does — whatever the
    event was (note, chord, control, rest, muted or inactive).  `C01Runs.lean` uses this to carry the closed
    form along the runs of `C07.run_is_merge`. -/
theorem solo_clock (W : World) (q : Nat) (t : Track) (hs : t.started = true) (hok : (soloTick W q t).out = .ok) :
    clockOf (soloTick W q t).t = clockOf (clockTick W q t) := by
  rw [soloTick, if_neg (by rw [hs]; exact Bool.noConfusion)] at hok ⊢
  by_cases hdue : t.nxt ≤ (t.cur * q : Nat)
  · rw [if_pos hdue] at hok ⊢
    obtain ⟨os, f, cu, he, _, hcu, _⟩ := soloAfterPull_frame q (Track.pullLoop W q (t.fuel q) t .stop)
    rw [clockTick, if_pos hdue, he, hcu hok]; rfl
  · rw [if_neg hdue, clockTick, if_neg hdue]; rfl

/-! Non-vacuity and the excluded region. -/
section Examples
def exW : World := fun _ _ => some (.ev 7 true (.note [{ note := 60, amp := 64, len := 3, gpos := true, chan := 0 }]))
def exT : Track := { id := 0, name := none, sid := 0, pos := 0, started := true, cur := 0, nxt := 0, count := 0,
                     maxCount := 0, offs := [], muted := false, finished := false, rwd := true }
-- off-grid durations (7 units at 3 units per tick): events 0,1,2,3 at ticks 0, ⌈7/3⌉=3, ⌈14/3⌉=5, 7
example : (List.range 8).map (fun j => fired exW 3 (clockRun exW 3 exT j))
    = [some 0, none, none, some 1, none, some 2, none, some 3] := by decide +kernel
example : HasDurs exW exT.sid (fun _ => 7) ∧ (∀ i : Nat, 3 ≤ (fun _ => 7) i) ∧ tm 3 exT.cur - 3 < exT.nxt := by
  refine ⟨fun i => ⟨true, _, rfl⟩, fun _ => by simp, by decide⟩
-- outside the guard a nudge far into the past makes the pull loop skip events (event 1 is never performed):
example : (List.range 4).map (fun j => fired exW 3 (clockRun exW 3 { exT with nxt := -8 } j))
    = [some 1, none, some 2, none] := by decide +kernel
end Examples

end IsobarV.C01
