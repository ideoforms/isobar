/-
C10 — reference definitions of the deterministic classes of `scalar.py`, `PDegree`, `PMidiNoteToFrequency`,
`PTri`, `PSaw`.

Every theorem is stated for an ARBITRARY semantics `rec` of the sub-patterns (so it holds on nested
combinations), all `n`, and relates the outcomes of the class's step function from its initial state
(`clsOuts stepX rec n kids st`) to a list function of the outcomes of its attributes (`recOuts rec n kid`).

* `PChanged` / `PDiff`: full outcome-level theorem (`delta_reference_outcomes`: any source, finite or not,
  raising or not), value-level corollaries (`changed_reference`, `diff_reference`) and
  "one value shorter than the input" (`delta_ends`).
* the other classes resolve their attributes row by row: `X_reference` = the outcomes are the class's
  documented function applied to the rows of attribute values, plus lemmas that characterise that function
  (`wrapVal_spec`, `roundHalfEven_spec`, `indexOfAtoms_spec`, `normRef`, closed forms for the oscillators…).
  Real powers (`PScaleLinExp`, `PMidiNoteToFrequency`) enter through an uninterpreted function `pw`.
-/
import IsobarV.Pat.Cls.ScalarLemmas
import Mathlib.Data.Rat.Floor
import Mathlib.Tactic.Linarith

namespace IsobarV.C10
open IsobarV.Pat

/-- Reference on outcomes: the first value of the source is held back as `current`; afterwards every value
    `x` yields `g current x` and becomes `current` (unless `g` raised); StopIteration / exceptions of the source
    pass through. -/
def deltaRef (g : Val → Val → Out) : Option Val → List Out → List Out
  | _, [] => []
  | cur, o :: os =>
    match cur, o with
    | Option.none, .val c => deltaRef g (some c) os
    | some c, .val x => g c x :: deltaRef g (some (keepOnErr (g c x) c x)) os
    | cur, o => o :: deltaRef g cur os

theorem deltaRef_some_length (g : Val → Val → Out) (c : Val) (os : List Out) :
    (deltaRef g (some c) os).length = os.length := by
  induction os generalizing c with
  | nil => rfl
  | cons o os ih => cases o <;> simp [deltaRef, ih]

theorem deltaRef_noVal (g : Val → Val → Out) (cur : Option Val) {o : Out} (hn : NoVal o) (os : List Out) :
    deltaRef g cur (o :: os) = o :: deltaRef g cur os := by
  cases o with
  | val v => exact absurd rfl (hn v)
  | stop => cases cur <;> rfl
  | err e => cases cur <;> rfl

theorem delta_primed (g : Val → Val → Out) (rec : Rec) (n : Nat) (a : Pat) (st : St) (h : st.n0 ≠ 0) :
    clsOuts (stepDelta g) rec n [a] st = deltaRef g (some st.v0) (recOuts rec n a) := by
  induction n generalizing a st with
  | zero => rfl
  | succ n ih =>
    rw [clsOuts, recOuts]
    rcases Out.val_or_noVal (rec a).out with ⟨x, hx⟩ | hn
    · rw [stepDelta_val (kids := [a]) h hx, hx, deltaRef]
      exact congrArg _ (ih _ _ h)
    · rw [stepDelta_fail (kids := [a]) hn, deltaRef_noVal g _ hn]
      exact congrArg _ (ih _ _ h)

/-- **`PChanged` / `PDiff`, any source** (finite or infinite, raising or not): from the initial state the first
    `n` outcomes are the first `n` entries of `deltaRef` applied to the first `n + 1` outcomes of the source. -/
theorem delta_reference_outcomes (g : Val → Val → Out) (rec : Rec) (n : Nat) (a : Pat) (st : St) (h : st.n0 = 0) :
    clsOuts (stepDelta g) rec n [a] st = (deltaRef g Option.none (recOuts rec (n + 1) a)).take n := by
  induction n generalizing a st with
  | zero => rfl
  | succ n ih =>
    rw [recOuts]
    rcases Out.val_or_noVal (rec a).out with ⟨c, hc⟩ | hn
    · -- the first step loads `c` and is the first step of the loaded pattern on the rest of the source
      have e : clsOuts (stepDelta g) rec (n + 1) [a] st =
          clsOuts (stepDelta g) rec (n + 1) [(rec a).p] { st with n0 := 1, v0 := c } :=
        congrArg (fun r : ClsRes => r.out :: clsOuts (stepDelta g) rec n r.kids r.st) (stepDelta_load (kids := [a]) h hc g)
      rw [e, delta_primed g rec _ _ _ (by decide : (1 : Int) ≠ 0), hc, deltaRef,
        List.take_of_length_le (by rw [deltaRef_some_length, recOuts_length])]
    · rw [clsOuts, stepDelta_fail (kids := [a]) hn, deltaRef_noVal g _ hn, List.take_succ_cons]
      exact congrArg _ (ih _ _ h)

/-- Reference on values: `current` threaded through the values after the first. -/
def deltaVals (g : Val → Val → Out) : Val → List Val → List Out
  | _, [] => []
  | c, x :: xs => g c x :: deltaVals g (keepOnErr (g c x) c x) xs

theorem deltaVals_length (g : Val → Val → Out) (c : Val) (xs : List Val) : (deltaVals g c xs).length = xs.length := by
  induction xs generalizing c with
  | nil => rfl
  | cons x xs ih => simp [deltaVals, ih]

theorem deltaRef_vals (g : Val → Val → Out) (x0 : Val) (xs : List Val) (tail : List Out)
    (ht : ∀ c, deltaRef g (some c) tail = tail) :
    deltaRef g Option.none ((x0 :: xs).map .val ++ tail) = deltaVals g x0 xs ++ tail := by
  rw [List.map_cons, List.cons_append, deltaRef]
  induction xs generalizing x0 with
  | nil => exact ht x0
  | cons x xs ih => rw [List.map_cons, List.cons_append, deltaRef, deltaVals, ih, List.cons_append]

/-- **Value level**: if the source yields `x0, x1, …, xn`, the pattern yields `g x0 x1, g x1 x2, …` (`n` values; where
    `g` raises, `current` stays). -/
theorem delta_reference (g : Val → Val → Out) (rec : Rec) (n : Nat) (a : Pat) (st : St) (h : st.n0 = 0)
    (x0 : Val) (xs : List Val) (ha : recOuts rec (n + 1) a = (x0 :: xs).map .val) :
    clsOuts (stepDelta g) rec n [a] st = deltaVals g x0 xs := by
  rw [delta_reference_outcomes g rec n a st h, ha, ← List.append_nil (List.map _ _),
    deltaRef_vals g x0 xs [] (fun _ => rfl), List.append_nil,
    List.take_of_length_le (by rw [deltaVals_length, Nat.succ.inj (vals_length ha)])]

/-- **"The length of the output pattern is always 1 less than the length of the input"**: a source of
    `m + 1` values followed by StopIteration gives `m` values followed by StopIteration. -/
theorem delta_ends (g : Val → Val → Out) (rec : Rec) (a : Pat) (st : St) (h : st.n0 = 0)
    (x0 : Val) (xs : List Val) (ha : recOuts rec (xs.length + 2) a = (x0 :: xs).map .val ++ [.stop]) :
    clsOuts (stepDelta g) rec (xs.length + 1) [a] st = deltaVals g x0 xs ++ [.stop] := by
  rw [delta_reference_outcomes g rec _ a st h, ha, deltaRef_vals g x0 xs [.stop] (fun _ => rfl),
    List.take_of_length_le (by rw [List.length_append, deltaVals_length]; exact Nat.le_refl _)]

theorem deltaVals_zipWith (g : Val → Val → Out) (c : Val) (xs : List Val)
    (hne : ∀ o ∈ List.zipWith g (c :: xs) xs, ∀ e, o ≠ .err e) :
    deltaVals g c xs = List.zipWith g (c :: xs) xs := by
  induction xs generalizing c with
  | nil => rfl
  | cons x xs ih =>
    have hk : keepOnErr (g c x) c x = x := by
      cases hg : g c x with
      | err e => exact absurd hg (hne _ (by simp) e)
      | _ => rfl
    rw [deltaVals, hk, List.zipWith_cons_cons, ih x fun o ho => hne o (by simp [ho])]

/-- **`PChanged`**: `1` where consecutive source values differ (Python `==`), `0` where they are equal. -/
theorem changed_reference (rec : Rec) (n : Nat) (a : Pat) (st : St) (h : st.n0 = 0)
    (x0 : Val) (xs : List Val) (ha : recOuts rec (n + 1) a = (x0 :: xs).map .val) :
    clsOuts (stepDelta changedVal) rec n [a] st =
      List.zipWith (fun c x => .val (.int (if valEq x c then 0 else 1))) (x0 :: xs) xs := by
  rw [delta_reference changedVal rec n a st h x0 xs ha, deltaVals_zipWith]
  · rfl
  · intro o ho e
    obtain ⟨i, _, rfl⟩ := List.getElem_of_mem ho
    simp [changedVal]

/-- **`PDiff`**: the difference of consecutive source values, a rest if either is a rest (as long as no
    subtraction raises, i.e. the values are numbers or rests). -/
theorem diff_reference (rec : Rec) (n : Nat) (a : Pat) (st : St) (h : st.n0 = 0)
    (x0 : Val) (xs : List Val) (ha : recOuts rec (n + 1) a = (x0 :: xs).map .val)
    (hne : ∀ o ∈ List.zipWith (fun c x => binopVal .sub x c) (x0 :: xs) xs, ∀ e, o ≠ .err e) :
    clsOuts (stepDelta diffVal) rec n [a] st = List.zipWith (fun c x => binopVal .sub x c) (x0 :: xs) xs := by
  rw [delta_reference diffVal rec n a st h x0 xs ha, deltaVals_zipWith diffVal x0 xs hne]
  rfl

example : clsOuts (stepDelta changedVal) (stepF 5) 5
    [.node .seq [Pat.const (.int 1), Pat.const (.int 1), Pat.const (.flt 2), Pat.const (.int 2), Pat.const Val.none] { n0 := 1 }] {} =
    [.val (.int 0), .val (.int 1), .val (.int 0), .val (.int 1), .stop] := by decide +kernel
example : clsOuts (stepDelta diffVal) (stepF 5) 4
    [.node .seq [Pat.const (.int 4), Pat.const (.int 5), Pat.const Val.none, Pat.const (.int 1)] { n0 := 1 }] {} =
    [.val (.int 1), .val Val.none, .val Val.none, .stop] := by decide +kernel

/-- **`PSkipIf`**: the input value, or a rest where `skip` is true (Python truthiness). -/
theorem skipIf_reference (rec : Rec) (n : Nat) (a s : Pat) (st : St) (xs ss : List Val)
    (ha : recOuts rec n a = xs.map .val) (hs : recOuts rec n s = ss.map .val) :
    clsOuts stepSkipIf rec n [a, s] st = List.zipWith (fun x k => .val (if k.truthy then Val.none else x)) xs ss := by
  unfold stepSkipIf
  rw [poll2_reference _ rfl _ rec n a s st xs ss ha hs, runF_pure1, List.map_zipWith]
  rfl

example : clsOuts stepSkipIf (stepF 5) 4
    [.node .seq [Pat.const (.int 1), Pat.const (.int 2)] { n0 := -1 },
     .node .seq [Pat.const (.int 0), Pat.const (.bool true), Pat.const Val.none] { n0 := -1 }] {} =
    [.val (.int 1), .val Val.none, .val (.int 1), .val (.int 2)] := by decide +kernel

/-- Smallest element of a history (`maxL`: largest); `0` for the empty one. -/
def minL : List Rat → Rat
  | [] => 0
  | y :: ys => ys.foldl ratMin y
def maxL : List Rat → Rat
  | [] => 0
  | y :: ys => ys.foldl ratMax y

/-- Reference: a rest stays a rest; a number is normalised into the range spanned by all numbers seen so far,
    itself included (`0.0` while that range is a single point). -/
def normRef : List Rat → List Val → List Out
  | _, [] => []
  | seen, .a .none :: xs => .val Val.none :: normRef seen xs
  | seen, .a x :: xs =>
    match x.toNum with
    | some v => .val (.flt (normOf (minL (seen ++ [v.r])) (maxL (seen ++ [v.r])) v.r)) :: normRef (seen ++ [v.r]) xs
    | Option.none => .err .typeError :: normRef seen xs
  | seen, .tup _ :: xs => .err .typeError :: normRef seen xs

theorem minL_snoc (seen : List Rat) (hs : seen ≠ []) (v : Rat) : minL (seen ++ [v]) = ratMin (minL seen) v := by
  cases seen with
  | nil => exact absurd rfl hs
  | cons y ys => simp [minL, List.foldl_append]

theorem maxL_snoc (seen : List Rat) (hs : seen ≠ []) (v : Rat) : maxL (seen ++ [v]) = ratMax (maxL seen) v := by
  cases seen with
  | nil => exact absurd rfl hs
  | cons y ys => simp [maxL, List.foldl_append]

/-- The own state mirrors the history. -/
def NormInv (st : St) (seen : List Rat) : Prop :=
  (seen = [] ∧ st.n0 = 0) ∨ (seen ≠ [] ∧ st.n0 ≠ 0 ∧ st.v0 = .flt (minL seen) ∧ st.v1 = .flt (maxL seen))

theorem normRef_num {x : Atom} {v : Num} (hx : x.toNum = some v) (seen : List Rat) (xs : List Val) :
    normRef seen (.a x :: xs) =
      .val (.flt (normOf (minL (seen ++ [v.r])) (maxL (seen ++ [v.r])) v.r)) :: normRef (seen ++ [v.r]) xs := by
  cases x <;> cases hx <;> rfl

theorem normRef_not_num {x : Atom} (hn : x ≠ .none) (hx : x.toNum = Option.none) (seen : List Rat) (xs : List Val) :
    normRef seen (.a x :: xs) = .err .typeError :: normRef seen xs := by
  cases x with
  | none => exact absurd rfl hn
  | str s => rfl
  | _ => cases hx

theorem normF_run (st : St) (seen : List Rat) (xs : List Val) (hinv : NormInv st seen) :
    runF normF st (xs.map (fun x => [x])) = normRef seen xs := by
  induction xs generalizing st seen with
  | nil => rfl
  | cons x xs ih =>
    rw [List.map_cons, runF]
    match x with
    | .tup t => exact congrArg (Out.err .typeError :: ·) (ih _ _ hinv)
    | .a x =>
      cases hx : x.toNum with
      | none =>
        by_cases hn : x = .none
        · subst hn; exact congrArg (Out.val Val.none :: ·) (ih _ _ hinv)
        · rw [normF_not_num hn hx, normRef_not_num hn hx]; exact congrArg _ (ih _ _ hinv)
      | some v =>
        rw [normRef_num hx]
        rcases hinv with ⟨hs, h0⟩ | ⟨hs, h0, hv0, hv1⟩
        · subst hs
          rw [normF_first hx h0]
          exact congrArg₂ (· :: ·) (by simp [normOf, minL, maxL])
            (ih _ [v.r] (Or.inr ⟨List.cons_ne_nil _ _, Int.one_ne_zero, rfl, rfl⟩))
        · rw [normF_next hx h0 hv0 hv1, minL_snoc seen hs, maxL_snoc seen hs]
          exact congrArg _ (ih _ _ (Or.inr ⟨List.append_ne_nil_of_left_ne_nil hs _, h0,
            congrArg Val.flt (minL_snoc seen hs _).symm, congrArg Val.flt (maxL_snoc seen hs _).symm⟩))

/-- **`PNormalise`** (after fixes 01, 02): running normalisation into `[0, 1]` over the history of the input. -/
theorem normalise_reference (rec : Rec) (n : Nat) (a : Pat) (st : St) (h0 : st.n0 = 0) (xs : List Val)
    (ha : recOuts rec n a = xs.map .val) :
    clsOuts stepNormalise rec n [a] st = normRef [] xs := by
  unfold stepNormalise
  rw [poll1_reference _ rfl _ rec n a st xs ha, normF_run st [] xs (Or.inl ⟨rfl, h0⟩)]

theorem normOf_unit (lo hi v : Rat) (h1 : lo ≤ v) (h2 : v ≤ hi) : 0 ≤ normOf lo hi v ∧ normOf lo hi v ≤ 1 := by
  unfold normOf
  split
  · exact ⟨le_refl 0, zero_le_one⟩
  · rename_i hne
    have hpos : 0 < hi - lo := sub_pos.mpr (lt_of_le_of_ne (h1.trans h2) (Ne.symm hne))
    exact ⟨div_nonneg (sub_nonneg.mpr h1) hpos.le, (div_le_one hpos).mpr (sub_le_sub_right h2 lo)⟩

theorem ratMin_le_left (a b : Rat) : ratMin a b ≤ a := by unfold ratMin; split <;> [exact le_of_lt ‹_›; exact le_refl a]
theorem ratMin_le_right (a b : Rat) : ratMin a b ≤ b := by unfold ratMin; split <;> [exact le_refl b; exact not_lt.mp ‹_›]
theorem le_ratMax_left (a b : Rat) : a ≤ ratMax a b := by unfold ratMax; split <;> [exact le_of_lt ‹_›; exact le_refl a]
theorem le_ratMax_right (a b : Rat) : b ≤ ratMax a b := by unfold ratMax; split <;> [exact le_refl b; exact not_lt.mp ‹_›]

theorem last_within_bounds (seen : List Rat) (v : Rat) : minL (seen ++ [v]) ≤ v ∧ v ≤ maxL (seen ++ [v]) := by
  by_cases hs : seen = []
  · subst hs; simp [minL, maxL]
  · rw [minL_snoc seen hs, maxL_snoc seen hs]
    exact ⟨ratMin_le_right _ _, le_ratMax_right _ _⟩

/-- Every number that `normRef` yields lies in `[0, 1]`: the newest value lies within the bounds of the history that
    includes it. -/
theorem normRef_step_unit (seen : List Rat) (v : Rat) :
    0 ≤ normOf (minL (seen ++ [v])) (maxL (seen ++ [v])) v ∧ normOf (minL (seen ++ [v])) (maxL (seen ++ [v])) v ≤ 1 :=
  normOf_unit _ _ _ (last_within_bounds seen v).1 (last_within_bounds seen v).2

example : clsOuts stepNormalise (stepF 5) 5
    [.node .seq [Pat.const (.int 3), Pat.const (.int 1), Pat.const Val.none, Pat.const (.int 5), Pat.const (.int 2)] { n0 := 1 }] {} =
    [.val (.flt 0), .val (.flt 0), .val Val.none, .val (.flt 1), .val (.flt (1/4))] := by decide +kernel

/-- **`PMap(input, f, arg)`**: `f(x_j, a_j)` for the `j`-th input value and the `j`-th argument value. -/
theorem map_reference1 (rec : Rec) (n : Nat) (a p : Pat) (st : St) (xs ps : List Val)
    (ha : recOuts rec n a = xs.map .val) (hp : recOuts rec n p = ps.map .val) :
    clsOuts stepMap rec n [a, p] st = List.zipWith (fun x y => mapFn st.n0 x [y]) xs ps := by
  unfold stepMap
  rw [poll2r_reference _ rfl _ rec n a p st xs ps ha hp, runF_const_st _ mapF_st, List.map_zipWith]
  rfl

/-- **`PMap(input, f, arg1, arg2)`** (positional or keyword arguments). -/
theorem map_reference2 (rec : Rec) (n : Nat) (a p q : Pat) (st : St) (xs ps qs : List Val)
    (ha : recOuts rec n a = xs.map .val) (hp : recOuts rec n p = ps.map .val) (hq : recOuts rec n q = qs.map .val) :
    clsOuts stepMap rec n [a, p, q] st = (rows3 ps qs xs).map (fun r => (mapF st r).out) := by
  unfold stepMap
  rw [poll3r_reference _ rfl _ rec n a p q st xs ps qs ha hp hq, runF_const_st _ mapF_st]

/-- A row `[arg1, arg2, value]` is evaluated as `f(value, arg1, arg2)`. -/
theorem mapF_row3 (st : St) (x y z : Val) : (mapF st [y, z, x]).out = mapFn st.n0 x [y, z] := rfl

example : clsOuts stepMap (stepF 5) 3
    [.node .seq [Pat.const (.int 4), Pat.const (.int 5), Pat.const (.int 1)] { n0 := 1 },
     .node .seq [Pat.const (.int 10), Pat.const (.int 20)] { n0 := -1 }] { n0 := 0 } =
    [.val (.int 14), .val (.int 25), .val (.int 11)] := by decide +kernel

theorem enumF_run (st : St) (xs : List Val) :
    runF enumF st (xs.map (fun x => [x])) = xs.mapIdx (fun j x => enumFn st.n0 (.int (st.n1 + (j : Int))) x []) := by
  induction xs generalizing st with
  | nil => rfl
  | cons x xs ih =>
    rw [List.map_cons, runF, List.mapIdx_cons, ih]
    refine congrArg₂ (· :: ·) (by rw [Int.natCast_zero, Int.add_zero]; rfl) ?_
    refine List.mapIdx_eq_mapIdx_iff.mpr fun j hj => ?_
    show enumFn st.n0 (.int (st.n1 + 1 + j)) _ [] = _
    rw [Int.natCast_succ, Int.add_assoc, Int.add_comm 1]

/-- **`PMapEnumerated(input, f)`**: `f(j, x_j)` with `j = 0, 1, 2, …`. -/
theorem mapEnumerated_reference (rec : Rec) (n : Nat) (a : Pat) (st : St) (h1 : st.n1 = 0) (xs : List Val)
    (ha : recOuts rec n a = xs.map .val) :
    clsOuts stepMapEnumerated rec n [a] st = xs.mapIdx (fun j x => enumFn st.n0 (.int (j : Int)) x []) := by
  unfold stepMapEnumerated
  rw [poll1_reference _ rfl _ rec n a st xs ha, enumF_run, h1]
  simp

example : clsOuts stepMapEnumerated (stepF 5) 4
    [.node .seq [Pat.const (.int 1), Pat.const (.int 11), Pat.const (.int 111)] { n0 := -1 }] { n0 := 0 } =
    [.val (.int 0), .val (.int 11), .val (.int 222), .val (.int 3)] := by decide +kernel

/-- **`PScaleLinLin`**: `scale_lin_lin` applied to the rows `[from_min, from_max, to_min, to_max, value]`. -/
theorem scaleLinLin_reference (rec : Rec) (n : Nat) (a b c d e : Pat) (st : St) (xs bs cs ds es : List Val)
    (ha : recOuts rec n a = xs.map .val) (hb : recOuts rec n b = bs.map .val) (hc : recOuts rec n c = cs.map .val)
    (hd : recOuts rec n d = ds.map .val) (he : recOuts rec n e = es.map .val) :
    clsOuts stepScaleLinLin rec n [a, b, c, d, e] st = (rows5 bs cs ds es xs).map scaleLinLinVal := by
  unfold stepScaleLinLin
  rw [poll5r_reference _ rfl _ rec n a b c d e st xs bs cs ds es ha hb hc hd he, runF_pure1]

theorem arith_flt (op : BinOp) (x y : Rat) : arith op (Val.a (Atom.flt x)) (Val.a (Atom.flt y)) = binopFlt op x y := rfl

/-- On floats the function is the linear map of `[a, b]` onto `[c, d]` (ZeroDivisionError for an empty range). -/
theorem scaleLinLinVal_flt (a b c d x : Rat) :
    scaleLinLinVal [.flt a, .flt b, .flt c, .flt d, .flt x] =
      if b - a = 0 then .err .zeroDivision else .val (.flt ((x - a) / (b - a) * (d - c) + c)) := by
  -- only the division can fail
  show (if b - a = 0 then Out.err .zeroDivision else Out.val (.flt ((x - a) / (b - a)))).andThen _ = _
  split <;> rfl

/-- The linear map sends `a ↦ c` and `b ↦ d`. -/
theorem scaleLinLin_endpoints (a b c d : Rat) (h : b - a ≠ 0) :
    (a - a) / (b - a) * (d - c) + c = c ∧ (b - a) / (b - a) * (d - c) + c = d := by
  constructor
  · simp
  · rw [div_self h]; ring

example : clsOuts stepScaleLinLin (stepF 5) 3
    [.node .seq [Pat.const (.int 4), Pat.const (.int 5), Pat.const (.flt (-3/2))] { n0 := 1 },
     Pat.const (.int 0), Pat.const (.int 10), Pat.const (.int 100), Pat.const (.int 200)] {} =
    [.val (.flt 140), .val (.flt 150), .val (.flt 85)] := by decide +kernel

/-- **`PScaleLinExp`**, for any power function `pw`: `scale_lin_exp` applied to the rows. -/
theorem scaleLinExp_reference (pw : Rat → Rat → Out) (rec : Rec) (n : Nat) (a b c d e : Pat) (st : St)
    (xs bs cs ds es : List Val)
    (ha : recOuts rec n a = xs.map .val) (hb : recOuts rec n b = bs.map .val) (hc : recOuts rec n c = cs.map .val)
    (hd : recOuts rec n d = ds.map .val) (he : recOuts rec n e = es.map .val) :
    clsOuts (stepScaleLinExp pw) rec n [a, b, c, d, e] st = (rows5 bs cs ds es xs).map (scaleLinExpVal pw) := by
  unfold stepScaleLinExp
  rw [poll5r_reference _ rfl _ rec n a b c d e st xs bs cs ds es ha hb hc hd he, runF_pure1]

/-- On floats inside the input range the function is `(d/c)^((x-a)/(b-a)) · c`; below the range it is `c`, above `d`. -/
theorem scaleLinExpVal_flt (pw : Rat → Rat → Out) (a b c d x : Rat) (hc : c ≠ 0) (hab : b - a ≠ 0) :
    scaleLinExpVal pw [.flt a, .flt b, .flt c, .flt d, .flt x] =
      if x < a then .val (.flt c)
      else if b < x then .val (.flt d)
      else (pw (d / c) ((x - a) / (b - a))).andThen (fun p => arith .mul p (.flt c)) := by
  -- on floats only the two divisions can fail
  have e : scaleLinExpVal pw [.flt a, .flt b, .flt c, .flt d, .flt x] =
      if decide (x < a) = true then .val (.flt c)
      else if decide (x > b) = true then .val (.flt d)
      else (if c = 0 then Out.err .zeroDivision else .val (.flt (d / c))).andThen fun base =>
        (if b - a = 0 then Out.err .zeroDivision else .val (.flt ((x - a) / (b - a)))).andThen fun e =>
        (powVia pw base e).andThen fun p => arith .mul p (.flt c) := rfl
  rw [e, if_neg hc, if_neg hab]
  simp only [decide_eq_true_eq, gt_iff_lt]
  rfl

example : clsOuts (stepScaleLinExp powApprox) (stepF 5) 4
    [.node .seq [Pat.const (.int 0), Pat.const (.int 1), Pat.const (.int 2), Pat.const (.int 9)] { n0 := 1 },
     Pat.const (.int 0), Pat.const (.int 2), Pat.const (.int 10), Pat.const (.int 40)] {} =
    [.val (.flt 10), .val (.flt 20), .val (.flt 40), .val (.int 40)] := by decide +kernel

/-- **`PRound`**: `round(x_j, ndigits_j)` row by row (`ndigits = None`: to an integer). -/
theorem round_reference (rec : Rec) (n : Nat) (a d : Pat) (st : St) (xs ds : List Val)
    (ha : recOuts rec n a = xs.map .val) (hd : recOuts rec n d = ds.map .val) :
    clsOuts stepRound rec n [a, d] st = List.zipWith (fun x nd => roundVal [nd, x]) xs ds := by
  unfold stepRound
  rw [poll2r_reference _ rfl _ rec n a d st xs ds ha hd, runF_pure1, List.map_zipWith]

/-- `roundHalfEven q` is a nearest integer, and the even one when `q` is exactly half-way. -/
theorem roundHalfEven_spec (q : Rat) :
    (q - (roundHalfEven q : Rat) ≤ 1 / 2 ∧ (roundHalfEven q : Rat) - q ≤ 1 / 2) ∧
    ((q - (roundHalfEven q : Rat) = 1 / 2 ∨ (roundHalfEven q : Rat) - q = 1 / 2) → roundHalfEven q % 2 = 0) := by
  have half : (0 : Rat) < 1 / 2 := by norm_num
  -- with `F = ⌊q⌋`:  `F - q ≤ 0`,  `q - (F + 1) < 0`,  and `F + 1 - q` is `1 - (q - F)`
  have e0 : (q.floor : Rat) - q ≤ 0 := sub_nonpos.mpr (Rat.floor_le q)
  have e1 : q - ((q.floor : Rat) + 1) < 0 := sub_neg.mpr (by exact_mod_cast Rat.lt_floor_add_one q)
  have e2 : (q.floor : Rat) + 1 - q = 1 - (q - q.floor) := by rw [sub_sub_eq_add_sub, add_comm]
  by_cases hA : q - q.floor < 1 / 2
  · rw [show roundHalfEven q = q.floor from if_pos hA]
    refine ⟨⟨hA.le, e0.trans half.le⟩, ?_⟩
    rintro (h' | h')
    · exact absurd (h' ▸ hA) (lt_irrefl _)
    · exact absurd (h' ▸ e0) (not_le.mpr half)
  · by_cases hB : 1 / 2 < q - q.floor
    · have e3 : (q.floor : Rat) + 1 - q < 1 / 2 := by rw [e2]; linarith only [hB]
      rw [show roundHalfEven q = q.floor + 1 from (if_neg hA).trans (if_pos hB), Int.cast_add, Int.cast_one]
      refine ⟨⟨e1.le.trans half.le, e3.le⟩, ?_⟩
      rintro (h' | h')
      · exact absurd (h' ▸ e1) (not_lt.mpr half.le)
      · exact absurd (h' ▸ e3) (lt_irrefl _)
    · have heq : q - (q.floor : Rat) = 1 / 2 := le_antisymm (not_lt.mp hB) (not_lt.mp hA)
      by_cases he : q.floor % 2 = 0
      · rw [show roundHalfEven q = q.floor from (if_neg hA).trans ((if_neg hB).trans (if_pos he))]
        exact ⟨⟨heq.le, e0.trans half.le⟩, fun _ => he⟩
      · rw [show roundHalfEven q = q.floor + 1 from (if_neg hA).trans ((if_neg hB).trans (if_neg he)),
          Int.cast_add, Int.cast_one]
        exact ⟨⟨e1.le.trans half.le, by rw [e2, heq]; norm_num⟩, fun _ => by omega⟩

theorem roundVal_flt_none (q : Rat) : roundVal [Val.none, .flt q] = .val (.int (roundHalfEven q)) := rfl
theorem roundVal_rest (nd : Val) : roundVal [nd, Val.none] = .val Val.none := rfl
theorem roundVal_flt_digits (q : Rat) (k : Int) : roundVal [.int k, .flt q] = .val (.flt (roundTo q k)) := rfl

example : clsOuts stepRound (stepF 5) 6
    [.node .seq [Pat.const (.flt (1/2)), Pat.const (.flt (3/2)), Pat.const (.flt (5/2)), Pat.const Val.none,
                 Pat.const (.flt (-39/10)), Pat.const (.int 7)] { n0 := 1 }, Pat.const Val.none] {} =
    [.val (.int 0), .val (.int 2), .val (.int 2), .val Val.none, .val (.int (-4)), .val (.int 7)] := by decide +kernel
example : clsOuts stepRound (stepF 5) 3
    [.node .seq [Pat.const (.int 42), Pat.const (.int 59), Pat.const (.flt (-71/10))] { n0 := 1 }, Pat.const (.int (-1))] {} =
    [.val (.int 40), .val (.int 60), .val (.flt (-10))] := by decide +kernel

/-- **`PScalar`**: the reduction `scalarVal` row by row. -/
theorem scalar_reference (rec : Rec) (n : Nat) (a m : Pat) (st : St) (xs ms : List Val)
    (ha : recOuts rec n a = xs.map .val) (hm : recOuts rec n m = ms.map .val) :
    clsOuts stepScalar rec n [a, m] st = List.zipWith (fun x method => scalarVal [method, x]) xs ms := by
  unfold stepScalar
  rw [poll2r_reference _ rfl _ rec n a m st xs ms ha hm, runF_pure1, List.map_zipWith]

theorem scalarVal_empty (m : Val) : scalarVal [m, .tup []] = .val Val.none := rfl
theorem scalarVal_first (x : Atom) (xs : List Atom) : scalarVal [Val.str "first", .tup (x :: xs)] = .val (.a x) := by
  unfold scalarVal
  simp only [show (Val.str "first" = Val.str "mean") = False from by decide, if_false, if_true]
theorem scalarVal_mean (x : Atom) (xs : List Atom) (s : Num) (h : sumAtoms (x :: xs) = some s) :
    scalarVal [Val.str "mean", .tup (x :: xs)] = .val (.flt (s.r / ((xs.length + 1 : Nat) : Rat))) := by
  unfold scalarVal
  simp only [h, if_true]
theorem scalarVal_number (m : Val) (i : Int) : scalarVal [m, .int i] = .val (.int i) := rfl

example : clsOuts stepScalar (stepF 5) 5
    [.node .seq [Pat.const (.int 1), Pat.const (.tup [.int 2, .int 3]), Pat.const (.tup [.int 4, .int 5, .int 6]),
                 Pat.const (.tup []), Pat.const (.int 7)] { n0 := 1 }, Pat.const (.str "mean")] {} =
    [.val (.int 1), .val (.flt (5/2)), .val (.flt 5), .val Val.none, .val (.int 7)] := by decide +kernel

/-- **`PWrap`** (after fixes 04–06): `wrapVal` applied to the rows `[value, min, max]`. -/
theorem wrap_reference (rec : Rec) (n : Nat) (a mn mx : Pat) (st : St) (xs los his : List Val)
    (ha : recOuts rec n a = xs.map .val) (hl : recOuts rec n mn = los.map .val) (hh : recOuts rec n mx = his.map .val) :
    clsOuts stepWrap rec n [a, mn, mx] st = (rows3 xs los his).map wrapVal := by
  unfold stepWrap
  rw [poll3_reference _ rfl _ rec n a mn mx st xs los his ha hl hh, runF_pure1]

theorem wrapRat_bounds (x lo hi : Rat) (h : lo < hi) : lo ≤ wrapRat x lo hi ∧ wrapRat x lo hi < hi := by
  unfold wrapRat
  have hw : 0 < hi - lo := sub_pos.mpr h
  -- `w * ⌊(x - lo) / w⌋ ≤ x - lo < w * (⌊(x - lo) / w⌋ + 1)` for the width `w = hi - lo`
  have h3 := mul_le_mul_of_nonneg_left (Rat.floor_le ((x - lo) / (hi - lo))) hw.le
  have h4 := mul_lt_mul_of_pos_left (Rat.lt_floor_add_one ((x - lo) / (hi - lo))) hw
  rw [mul_div_cancel₀ _ hw.ne'] at h3 h4
  rw [Int.cast_add, Int.cast_one, mul_add, mul_one] at h4
  exact ⟨le_sub_comm.mpr h3, by linarith only [h4]⟩

/-- **Wrap into `[min, max)`**: for `min < max` the result lies in `[min, max)` and differs from the input by a
    whole number of range widths. -/
theorem wrapVal_spec (x lo hi : Rat) (h : lo < hi) :
    ∃ r, wrapVal [.flt x, .flt lo, .flt hi] = .val (.flt r) ∧ lo ≤ r ∧ r < hi ∧ ∃ k : Int, r = x - (hi - lo) * (k : Rat) := by
  have e : wrapVal [.flt x, .flt lo, .flt hi] =
      if lo ≤ x ∧ x < hi then .val (.flt x) else .val (.flt (wrapRat x lo hi)) := by
    unfold wrapVal
    simp only [Val.flt, Atom.toNum, not_le.mpr h, if_false, mkNum, Bool.or_self, if_true]
  rw [e]
  split
  · rename_i hin
    exact ⟨x, rfl, hin.1, hin.2, 0, by rw [Int.cast_zero, mul_zero, sub_zero]⟩
  · exact ⟨_, rfl, (wrapRat_bounds x lo hi h).1, (wrapRat_bounds x lo hi h).2, _, rfl⟩

theorem wrapVal_rest (lo hi : Val) : wrapVal [Val.none, lo, hi] = .val Val.none := rfl
theorem wrapVal_empty_range (x lo hi : Rat) (h : hi ≤ lo) : wrapVal [.flt x, .flt lo, .flt hi] = .err .valueError := by
  unfold wrapVal
  simp only [Val.flt, Atom.toNum, h, if_true]

example : clsOuts stepWrap (stepF 5) 6
    [.node .seq [Pat.const (.int 5), Pat.const (.int 8), Pat.const (.int 11), Pat.const (.int (-3)), Pat.const Val.none,
                 Pat.const (.flt (41/2))] { n0 := 1 }, Pat.const (.int 0), Pat.const (.int 10)] {} =
    [.val (.int 5), .val (.int 8), .val (.int 1), .val (.int 7), .val Val.none, .val (.flt (1/2))] := by decide +kernel

/-- **`PIndexOf`**: `indexOfVal` applied to the rows `[list, item]`. -/
theorem indexOf_reference (rec : Rec) (n : Nat) (l i : Pat) (st : St) (ls is : List Val)
    (hl : recOuts rec n l = ls.map .val) (hi : recOuts rec n i = is.map .val) :
    clsOuts stepIndexOf rec n [l, i] st = List.zipWith (fun lst item => indexOfVal [lst, item]) ls is := by
  unfold stepIndexOf
  rw [poll2_reference _ rfl _ rec n l i st ls is hl hi, runF_pure1, List.map_zipWith]

/-- `indexOfAtoms` finds the FIRST position holding an equal element, or nothing if there is none. -/
theorem indexOfAtoms_spec (x : Atom) (ys : List Atom) (i : Nat) :
    match indexOfAtoms x ys i with
    | some j => ∃ m y, j = i + m ∧ ys[m]? = some y ∧ atomEq x y = true ∧
        ∀ m' y', m' < m → ys[m']? = some y' → atomEq x y' = false
    | Option.none => ∀ y ∈ ys, atomEq x y = false := by
  induction ys generalizing i with
  | nil => exact fun _ h => nomatch h
  | cons y ys ih =>
    rw [indexOfAtoms]
    cases h : atomEq x y with
    | true => exact ⟨0, y, rfl, rfl, h, fun _ _ hm => absurd hm (Nat.not_lt_zero _)⟩
    | false =>
      have := ih (i + 1)
      rw [if_neg Bool.false_ne_true]
      cases hj : indexOfAtoms x ys (i + 1) with
      | some j =>
        rw [hj] at this
        obtain ⟨m, y0, e1, e2, e3, e4⟩ := this
        refine ⟨m + 1, y0, by omega, e2, e3, fun m' y' hm hy => ?_⟩
        cases m' with
        | zero => cases hy; exact h
        | succ m' => exact e4 m' y' (by omega) hy
      | none =>
        rw [hj] at this
        exact List.forall_mem_cons.mpr ⟨h, this⟩

example : clsOuts stepIndexOf (stepF 5) 5
    [Pat.const (.tup [.int 1, .int 2, .int 3, .int 2]),
     .node .seq [Pat.const (.int 2), Pat.const (.flt 3), Pat.const (.int 7), Pat.const Val.none, Pat.const (.int 1)] { n0 := 1 }] {} =
    [.val (.int 1), .val (.int 2), .val Val.none, .val Val.none, .val (.int 0)] := by decide +kernel

/-- **`PDegree`**: `degreeVal` applied to the rows `[degree, scale]`. -/
theorem degree_reference (rec : Rec) (n : Nat) (d s : Pat) (st : St) (ds ss : List Val)
    (hd : recOuts rec n d = ds.map .val) (hs : recOuts rec n s = ss.map .val) :
    clsOuts stepDegree rec n [d, s] st = List.zipWith (fun deg sc => degreeVal [deg, sc]) ds ss := by
  unfold stepDegree
  rw [poll2_reference _ rfl _ rec n d s st ds ss hd hs, runF_pure1, List.map_zipWith]

/-- An integer degree maps to `Scale.get` (`octave_size · (d div len) + semitones[d mod len]`, floor division:
    negative degrees descend). -/
theorem degreeVal_int (name : String) (s : Tonal.Scale) (h : scaleByName name = some s) (i : Int) :
    degreeVal [.int i, .str name] =
      .val (.int (s.octave * Int.fdiv i s.semitones.length + s.semitones.getD (Int.fmod i s.semitones.length).toNat 0)) := by
  unfold degreeVal
  simp only [Val.int, h]
  rfl

theorem degreeVal_rest (sc : Val) : degreeVal [Val.none, sc] = .val Val.none := rfl

theorem degreeVal_chord (name : String) (s : Tonal.Scale) (h : scaleByName name = some s) (xs ys : List Atom)
    (hx : degreeAtoms s xs = some ys) : degreeVal [.tup xs, .str name] = .val (.tup ys) := by
  unfold degreeVal
  simp only [h, hx]

example : clsOuts stepDegree (stepF 5) 5
    [.node .seq [Pat.const (.int 0), Pat.const (.int 1), Pat.const (.int (-1)), Pat.const Val.none, Pat.const (.int 7)] { n0 := 1 },
     Pat.const (.str "major")] {} =
    [.val (.int 0), .val (.int 2), .val (.int (-1)), .val Val.none, .val (.int 12)] := by decide +kernel

/-- **`PMidiNoteToFrequency`**, for any power function `pw`: `midiVal pw` value by value (`midiVal_int`:
    `440 · pw 2 ((note − 69)/12)`; `midiVal_rest`). -/
theorem midi_reference (pw : Rat → Rat → Out) (rec : Rec) (n : Nat) (a : Pat) (st : St) (xs : List Val)
    (ha : recOuts rec n a = xs.map .val) :
    clsOuts (stepMidi pw) rec n [a] st = xs.map (fun x => midiVal pw [x]) := by
  unfold stepMidi
  rw [poll1_reference _ rfl _ rec n a st xs ha, runF_pure1, List.map_map]
  rfl

theorem midiVal_int (pw : Rat → Rat → Out) (i : Int) (y : Rat) (h : pw 2 (((i : Rat) - 69) / 12) = .val (.flt y)) :
    midiVal pw [.int i] = .val (.flt (440 * y)) := by
  unfold midiVal
  simp only [Atom.toNum, h, Val.flt]

theorem midiVal_rest (pw : Rat → Rat → Out) : midiVal pw [Val.none] = .val Val.none := rfl

example : clsOuts (stepMidi powApprox) (stepF 5) 4
    [.node .seq [Pat.const (.int 69), Pat.const (.int 81), Pat.const Val.none, Pat.const (.flt 45)] { n0 := 1 }] {} =
    [.val (.flt 440), .val (.flt 880), .val Val.none, .val (.flt 110)] := by decide +kernel

/-- **`PTri` / `PSaw`, pattern-valued parameters**: the phase recurrence `oscF` threaded over the rows
    `[length, min, max]` of parameter values. -/
theorem osc_reference (shape : Rat → Rat) (rec : Rec) (n : Nat) (l mn mx : Pat) (st : St) (ls los his : List Val)
    (hl : recOuts rec n l = ls.map .val) (hlo : recOuts rec n mn = los.map .val) (hhi : recOuts rec n mx = his.map .val) :
    clsOuts (stepPoll (fun _ => [0, 1, 2]) (oscF shape)) rec n [l, mn, mx] st = runF (oscF shape) st (rows3 ls los his) :=
  poll3_reference _ rfl _ rec n l mn mx st ls los his hl hlo hhi

theorem tri_reference (rec : Rec) (n : Nat) (l mn mx : Pat) (st : St) (ls los his : List Val)
    (hl : recOuts rec n l = ls.map .val) (hlo : recOuts rec n mn = los.map .val) (hhi : recOuts rec n mx = his.map .val) :
    clsOuts stepTri rec n [l, mn, mx] st = runF (oscF triShape) st (rows3 ls los his) :=
  osc_reference triShape rec n l mn mx st ls los his hl hlo hhi

theorem saw_reference (rec : Rec) (n : Nat) (l mn mx : Pat) (st : St) (ls los his : List Val)
    (hl : recOuts rec n l = ls.map .val) (hlo : recOuts rec n mn = los.map .val) (hhi : recOuts rec n mx = his.map .val) :
    clsOuts stepSaw rec n [l, mn, mx] st = runF (oscF id) st (rows3 ls los his) :=
  osc_reference id rec n l mn mx st ls los his hl hlo hhi

/-- The phase at step `j` for a constant integer `length = L ≥ 1` (observed behaviour of the code: the first
    cycle runs through the phases `0 … L`, every later cycle through `1 … L`). -/
def phaseAt (L j : Nat) : Nat := if j = 0 then 0 else (j - 1) % L + 1

theorem succ_mod (m L : Nat) (hL : 1 ≤ L) : (m + 1) % L = if m % L + 1 = L then 0 else m % L + 1 := by
  rw [← Nat.mod_add_mod]
  split
  · rename_i h; rw [h, Nat.mod_self]
  · rename_i h; exact Nat.mod_eq_of_lt (Nat.lt_of_le_of_ne (Nat.mod_lt _ hL) h)

theorem phaseAt_step (L j : Nat) (hL : 1 ≤ L) :
    phaseAt L (j + 1) = if L < phaseAt L j + 1 then phaseAt L j + 1 - L else phaseAt L j + 1 := by
  cases j with
  | zero =>
    show 0 % L + 1 = if L < 0 + 1 then 0 + 1 - L else 0 + 1
    rw [Nat.zero_mod, if_neg (Nat.not_lt.mpr hL)]
  | succ m =>
    show (m + 1) % L + 1 = if L < m % L + 1 + 1 then m % L + 1 + 1 - L else m % L + 1 + 1
    have := Nat.mod_lt m hL
    rw [succ_mod m L hL]
    by_cases hc : m % L + 1 = L
    · rw [if_pos hc, if_pos (Nat.lt_succ_of_le (Nat.le_of_eq hc.symm)), hc, Nat.add_sub_cancel_left]
    · rw [if_neg hc, if_neg (Nat.not_lt.mpr (Nat.succ_le_of_lt (Nat.lt_of_le_of_ne this hc)))]

theorem phaseAt_succ (L j : Nat) (hL : 1 ≤ L) :
    nextPhase ((phaseAt L j : Nat) : Rat) ((L : Nat) : Rat) = ((phaseAt L (j + 1) : Nat) : Rat) := by
  rw [phaseAt_step L j hL]
  unfold nextPhase
  by_cases h : L < phaseAt L j + 1
  · rw [if_pos h, if_pos (by exact_mod_cast h), Nat.cast_sub h.le, Nat.cast_add, Nat.cast_one]
  · rw [if_neg h, if_neg (by exact_mod_cast h), Nat.cast_add, Nat.cast_one]

theorem rows3_replicate (n : Nat) (a b c : Val) :
    rows3 (List.replicate n a) (List.replicate n b) (List.replicate n c) = List.replicate n [a, b, c] := by
  induction n with
  | zero => rfl
  | succ n ih => simp [List.replicate_succ, rows3, ih]

theorem osc_run_const (shape : Rat → Rat) (L : Nat) (hL : 1 ≤ L) (lo hi : Atom) (vlo vhi : Num)
    (hlo : lo.toNum = some vlo) (hhi : hi.toNum = some vhi) (n j0 : Nat) (st : St)
    (hst : st.v0 = .flt ((phaseAt L j0 : Nat) : Rat)) :
    runF (oscF shape) st (List.replicate n [.int (L : Int), .a lo, .a hi]) =
      (List.range n).map (fun j => .val (.flt (vlo.r + (vhi.r - vlo.r) * shape (((phaseAt L (j0 + j) : Nat) : Rat) / ((L : Nat) : Rat))))) := by
  induction n generalizing st j0 with
  | zero => rfl
  | succ n ih =>
    have hL0 : ((L : Nat) : Rat) ≠ 0 := Nat.cast_ne_zero.mpr (Nat.pos_iff_ne_zero.mp hL)
    have hLn : (Atom.int (L : Int)).toNum = some { r := ((L : Nat) : Rat), isFloat := false } := by
      simp [Atom.toNum]
    have e : oscF shape st [.int (L : Int), .a lo, .a hi] = _ := oscF_num hLn hL0 hlo hhi hst
    rw [List.replicate_succ, runF, e, List.range_succ_eq_map, List.map_cons, List.map_map,
      ih (j0 + 1) _ (congrArg Val.flt (phaseAt_succ L j0 hL))]
    refine congrArg _ (List.map_congr_left fun j _ => ?_)
    rw [Function.comp, Nat.add_assoc, Nat.add_comm 1 j]

/-- **`PTri(L, lo, hi)` / `PSaw(L, lo, hi)` with constant integer length `L ≥ 1` and numeric bounds**: step `j`
    yields `lo + (hi − lo) · shape(phase_j / L)` with `phase_0 = 0`, `phase_j = ((j − 1) mod L) + 1`
    (as floats).  Read off the formula: `PTri` has period `L` from the start (both ends of the first cycle give `lo`)
    and reaches `hi` only when `L` is even; `PSaw` restarts from `lo + (hi − lo)/L`, never from `lo`, after its first cycle. -/
theorem osc_closed_form (shape : Rat → Rat) (rec : Rec) (n : Nat) (l mn mx : Pat) (st : St) (L : Nat) (hL : 1 ≤ L)
    (lo hi : Atom) (vlo vhi : Num) (hlo : lo.toNum = some vlo) (hhi : hi.toNum = some vhi)
    (hst : st.v0 = .flt 0)
    (hl : recOuts rec n l = List.replicate n (.val (.int (L : Int))))
    (hmn : recOuts rec n mn = List.replicate n (.val (.a lo))) (hmx : recOuts rec n mx = List.replicate n (.val (.a hi))) :
    clsOuts (stepPoll (fun _ => [0, 1, 2]) (oscF shape)) rec n [l, mn, mx] st =
      (List.range n).map (fun j => .val (.flt (vlo.r + (vhi.r - vlo.r) * shape (((phaseAt L j : Nat) : Rat) / ((L : Nat) : Rat))))) := by
  rw [osc_reference shape rec n l mn mx st (List.replicate n (.int (L : Int))) (List.replicate n (.a lo))
      (List.replicate n (.a hi)) (hl.trans List.map_replicate.symm) (hmn.trans List.map_replicate.symm)
      (hmx.trans List.map_replicate.symm),
    rows3_replicate, osc_run_const shape L hL lo hi vlo vhi hlo hhi n 0 st hst]
  simp only [Nat.zero_add]

theorem tri_closed_form (rec : Rec) (n : Nat) (l mn mx : Pat) (st : St) (L : Nat) (hL : 1 ≤ L)
    (lo hi : Atom) (vlo vhi : Num) (hlo : lo.toNum = some vlo) (hhi : hi.toNum = some vhi) (hst : st.v0 = .flt 0)
    (hl : recOuts rec n l = List.replicate n (.val (.int (L : Int))))
    (hmn : recOuts rec n mn = List.replicate n (.val (.a lo))) (hmx : recOuts rec n mx = List.replicate n (.val (.a hi))) :
    clsOuts stepTri rec n [l, mn, mx] st =
      (List.range n).map (fun j => .val (.flt (vlo.r + (vhi.r - vlo.r) * triShape (((phaseAt L j : Nat) : Rat) / ((L : Nat) : Rat))))) :=
  osc_closed_form triShape rec n l mn mx st L hL lo hi vlo vhi hlo hhi hst hl hmn hmx

theorem saw_closed_form (rec : Rec) (n : Nat) (l mn mx : Pat) (st : St) (L : Nat) (hL : 1 ≤ L)
    (lo hi : Atom) (vlo vhi : Num) (hlo : lo.toNum = some vlo) (hhi : hi.toNum = some vhi) (hst : st.v0 = .flt 0)
    (hl : recOuts rec n l = List.replicate n (.val (.int (L : Int))))
    (hmn : recOuts rec n mn = List.replicate n (.val (.a lo))) (hmx : recOuts rec n mx = List.replicate n (.val (.a hi))) :
    clsOuts stepSaw rec n [l, mn, mx] st =
      (List.range n).map (fun j => .val (.flt (vlo.r + (vhi.r - vlo.r) * (((phaseAt L j : Nat) : Rat) / ((L : Nat) : Rat))))) :=
  osc_closed_form id rec n l mn mx st L hL lo hi vlo vhi hlo hhi hst hl hmn hmx

/-- The triangle shape: `0` at both ends, `1` in the middle. -/
theorem triShape_values : triShape 0 = 0 ∧ triShape (1 / 2) = 1 ∧ triShape 1 = 0 := by
  refine ⟨?_, ?_, ?_⟩ <;> norm_num [triShape]

theorem triShape_unit (x : Rat) (h0 : 0 ≤ x) (h1 : x ≤ 1) : 0 ≤ triShape x ∧ triShape x ≤ 1 := by
  unfold triShape
  split
  · rename_i h; exact ⟨mul_nonneg h0 zero_le_two, by linarith only [h]⟩
  · rename_i h
    exact ⟨by linarith only [h1], sub_le_self _ (mul_nonneg (sub_nonneg.mpr (not_lt.mp h)) zero_le_two)⟩

example : clsOuts stepTri (stepF 5) 7 [Pat.const (.int 4), Pat.const (.int 0), Pat.const (.int 1)] { v0 := .flt 0 } =
    [.val (.flt 0), .val (.flt (1/2)), .val (.flt 1), .val (.flt (1/2)), .val (.flt 0), .val (.flt (1/2)), .val (.flt 1)] := by
  decide +kernel
example : clsOuts stepSaw (stepF 5) 7 [Pat.const (.int 4), Pat.const (.int 0), Pat.const (.int 1)] { v0 := .flt 0 } =
    [.val (.flt 0), .val (.flt (1/4)), .val (.flt (1/2)), .val (.flt (3/4)), .val (.flt 1), .val (.flt (1/4)), .val (.flt (1/2))] := by
  decide +kernel

/- Finite inputs: the pattern ends with its input, after exactly the values the reference defines. -/

/-- `PSkipIf` over an input of `m` values ends after `m` values (`skip` needs only `m` values). -/
theorem skipIf_ends (rec : Rec) (a s : Pat) (st : St) (xs ss : List Val)
    (ha : recOuts rec (xs.length + 1) a = xs.map .val ++ [.stop]) (hs : recOuts rec xs.length s = ss.map .val) :
    clsOuts stepSkipIf rec (xs.length + 1) [a, s] st =
      List.zipWith (fun x k => .val (if k.truthy then Val.none else x)) xs ss ++ [.stop] := by
  unfold stepSkipIf
  rw [poll2_ends _ rfl _ rec a s st xs ss ha hs, runF_pure1, List.map_zipWith]
  rfl

theorem normalise_ends (rec : Rec) (a : Pat) (st : St) (h0 : st.n0 = 0) (xs : List Val)
    (ha : recOuts rec (xs.length + 1) a = xs.map .val ++ [.stop]) :
    clsOuts stepNormalise rec (xs.length + 1) [a] st = normRef [] xs ++ [.stop] := by
  unfold stepNormalise
  rw [poll1_ends _ rfl _ rec a st xs ha, normF_run st [] xs (Or.inl ⟨rfl, h0⟩)]

theorem mapEnumerated_ends (rec : Rec) (a : Pat) (st : St) (h1 : st.n1 = 0) (xs : List Val)
    (ha : recOuts rec (xs.length + 1) a = xs.map .val ++ [.stop]) :
    clsOuts stepMapEnumerated rec (xs.length + 1) [a] st =
      xs.mapIdx (fun j x => enumFn st.n0 (.int (j : Int)) x []) ++ [.stop] := by
  unfold stepMapEnumerated
  rw [poll1_ends _ rfl _ rec a st xs ha, enumF_run, h1]
  simp

/-- `PMap(input, f, arg)`: the argument is resolved once more than the input yields values. -/
theorem map_ends1 (rec : Rec) (a p : Pat) (st : St) (xs ps : List Val) (p' : Val)
    (ha : recOuts rec (xs.length + 1) a = xs.map .val ++ [.stop])
    (hp : recOuts rec (xs.length + 1) p = ps.map .val ++ [.val p']) :
    clsOuts stepMap rec (xs.length + 1) [a, p] st = List.zipWith (fun x y => mapFn st.n0 x [y]) xs ps ++ [.stop] := by
  unfold stepMap
  rw [poll2r_ends _ rfl _ rec a p st xs ps p' ha hp, runF_const_st _ mapF_st, List.map_zipWith]
  rfl

theorem round_ends (rec : Rec) (a d : Pat) (st : St) (xs ds : List Val) (d' : Val)
    (ha : recOuts rec (xs.length + 1) a = xs.map .val ++ [.stop])
    (hd : recOuts rec (xs.length + 1) d = ds.map .val ++ [.val d']) :
    clsOuts stepRound rec (xs.length + 1) [a, d] st = List.zipWith (fun x nd => roundVal [nd, x]) xs ds ++ [.stop] := by
  unfold stepRound
  rw [poll2r_ends _ rfl _ rec a d st xs ds d' ha hd, runF_pure1, List.map_zipWith]

theorem scalar_ends (rec : Rec) (a m : Pat) (st : St) (xs ms : List Val) (m' : Val)
    (ha : recOuts rec (xs.length + 1) a = xs.map .val ++ [.stop])
    (hm : recOuts rec (xs.length + 1) m = ms.map .val ++ [.val m']) :
    clsOuts stepScalar rec (xs.length + 1) [a, m] st = List.zipWith (fun x method => scalarVal [method, x]) xs ms ++ [.stop] := by
  unfold stepScalar
  rw [poll2r_ends _ rfl _ rec a m st xs ms m' ha hm, runF_pure1, List.map_zipWith]

theorem wrap_ends (rec : Rec) (a mn mx : Pat) (st : St) (xs los his : List Val)
    (ha : recOuts rec (xs.length + 1) a = xs.map .val ++ [.stop])
    (hl : recOuts rec xs.length mn = los.map .val) (hh : recOuts rec xs.length mx = his.map .val) :
    clsOuts stepWrap rec (xs.length + 1) [a, mn, mx] st = (rows3 xs los his).map wrapVal ++ [.stop] := by
  unfold stepWrap
  rw [poll3_ends _ rfl _ rec a mn mx st xs los his ha hl hh, runF_pure1]

theorem degree_ends (rec : Rec) (d s : Pat) (st : St) (ds ss : List Val)
    (hd : recOuts rec (ds.length + 1) d = ds.map .val ++ [.stop]) (hs : recOuts rec ds.length s = ss.map .val) :
    clsOuts stepDegree rec (ds.length + 1) [d, s] st = List.zipWith (fun deg sc => degreeVal [deg, sc]) ds ss ++ [.stop] := by
  unfold stepDegree
  rw [poll2_ends _ rfl _ rec d s st ds ss hd hs, runF_pure1, List.map_zipWith]

theorem midi_ends (pw : Rat → Rat → Out) (rec : Rec) (a : Pat) (st : St) (xs : List Val)
    (ha : recOuts rec (xs.length + 1) a = xs.map .val ++ [.stop]) :
    clsOuts (stepMidi pw) rec (xs.length + 1) [a] st = xs.map (fun x => midiVal pw [x]) ++ [.stop] := by
  unfold stepMidi
  rw [poll1_ends _ rfl _ rec a st xs ha, runF_pure1, List.map_map]
  rfl

end IsobarV.C10
