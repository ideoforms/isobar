/-
What the theorems of property C14 rest on.  The clock multiplier in closed form, for every generator that
will keep yielding (`Gen.Live`): `Gen.balance`, `Gen.closed_form`, `Gen.window`.  The device loop and
`Timeline.tick` over such devices.  The catch-up loop of `Clock.run` under a target that leaves the clock
alone, as an invariant (`Rel`) that every wake-up keeps.  The MIDI input callback and the slaved timeline.
-/
import IsobarV.Clock.Model
namespace IsobarV.Clock

/-- The loop stops at `pos ≤ den`, not `pos < den`: it is `pos - 1` that is divided. -/
theorem drain_spec {den : Nat} (hden : 0 < den) (fuel q rv : Nat) (h : q < fuel) :
    drain fuel den (q + 1) rv = { pos := q % den + 1, rv := rv + q / den } := by
  induction fuel generalizing q rv with
  | zero => nomatch h
  | succ f ih =>
    rw [drain]
    by_cases hq : den ≤ q
    · have hf : q - den < f :=
        Nat.lt_of_lt_of_le (Nat.sub_lt (Nat.lt_of_lt_of_le hden hq) hden) (Nat.le_of_lt_succ h)
      rw [if_pos (Nat.lt_succ_of_le hq), Nat.sub_add_comm hq, ih _ _ hf, Nat.mod_eq_sub_mod hq,
        Nat.div_eq_sub_div hden hq, Nat.add_assoc, Nat.add_comm 1]
    · have hlt := Nat.not_le.1 hq
      rw [if_neg (Nat.not_lt.2 hlt), Nat.mod_eq_of_lt hlt, Nat.div_eq_of_lt hlt]; rfl

theorem Gen.num_pos (g : Gen) : 0 < g.num := by
  unfold Gen.num; split
  next h => exact Nat.pos_of_ne_zero h.1
  next => exact Nat.one_pos

theorem Gen.den_pos (g : Gen) : 0 < g.den := by
  unfold Gen.den; split
  next h => exact Nat.pos_of_ne_zero h.2
  next => exact Nat.one_pos

theorem Gen.advance_spec (g : Gen) (p : Nat) :
    g.advance p = { res := .ticks ((p + g.num - 1) / g.den),
                    gen := { g with st := .running ((p + g.num - 1) % g.den + 1) } } := by
  have e : p + g.num = p + g.num - 1 + 1 :=
    (Nat.sub_add_cancel (Nat.le_trans g.num_pos (Nat.le_add_left _ _))).symm
  rw [Gen.advance, e, drain_spec g.den_pos _ _ _ (Nat.lt_succ_self _), Nat.add_sub_cancel, Nat.zero_add]

/-- The phase of a generator (`pos`, scaled by `den`); a fresh generator starts at `pos = den`. -/
def Gen.pos (g : Gen) : Nat :=
  match g.st with
  | .fresh => g.den
  | .running p => p
  | .finished => 0

/-- A generator that will keep yielding: not yet started with compatible rates, or running with its
    phase in `(0, den]`. -/
def Gen.Live (g : Gen) : Prop :=
  (g.st = .fresh ∧ g.accepts = true) ∨ (∃ p, g.st = .running p ∧ 0 < p ∧ p ≤ g.den)

instance Gen.decLive (g : Gen) : Decidable g.Live :=
  match h : g.st with
  | .fresh =>
    if ha : g.accepts = true then isTrue (Or.inl ⟨h, ha⟩)
    else isFalse (by
      rintro (⟨_, h2⟩ | ⟨p, h2, _⟩)
      · exact ha h2
      · rw [h] at h2; cases h2)
  | .running p =>
    if hp : 0 < p ∧ p ≤ g.den then isTrue (Or.inr ⟨p, h, hp.1, hp.2⟩)
    else isFalse (by
      rintro (⟨h2, _⟩ | ⟨q, h2, h3, h4⟩)
      · rw [h] at h2; cases h2
      · rw [h] at h2; cases h2; exact hp ⟨h3, h4⟩)
  | .finished => isFalse (by
      rintro (⟨h2, _⟩ | ⟨q, h2, _⟩)
      · rw [h] at h2; cases h2
      · rw [h] at h2; cases h2)

theorem Gen.Live.pos_bounds {g : Gen} (h : g.Live) : 0 < g.pos ∧ g.pos ≤ g.den := by
  rcases h with ⟨h, _⟩ | ⟨p, h, h1, h2⟩
  · simp only [Gen.pos, h]; exact ⟨g.den_pos, Nat.le_refl _⟩
  · simp only [Gen.pos, h]; exact ⟨h1, h2⟩

theorem Gen.next_live {g : Gen} (h : g.Live) :
    g.next = { res := .ticks ((g.pos + g.num - 1) / g.den),
               gen := { g with st := .running ((g.pos + g.num - 1) % g.den + 1) } } := by
  rw [← Gen.advance_spec]
  rcases h with ⟨h, ha⟩ | ⟨p, h, -, -⟩
  · simp only [Gen.next, Gen.pos, h, ha, if_true]
  · simp only [Gen.next, Gen.pos, h]

theorem Gen.next_refused {g : Gen} (h : g.st = .fresh) (ha : g.accepts = false) :
    g.next = { res := .clockError, gen := { g with st := .finished } } := by
  simp only [Gen.next, h, ha]; rfl

theorem Gen.next_finished {g : Gen} (h : g.st = .finished) :
    g.next = { res := .stopIteration, gen := g } := by
  simp only [Gen.next, h]

theorem Gen.after_refused {g : Gen} (h : g.st = .fresh) (ha : g.accepts = false) (n : Nat) :
    g.after (n + 1) = { g with st := .finished } := by
  induction n with
  | zero => show g.next.gen = _; rw [Gen.next_refused h ha]
  | succ n ih => rw [Gen.after, ih, Gen.next_finished rfl]

theorem Gen.refused_iff {g : Gen} (h : g.st = .fresh) : g.next.res = .clockError ↔ g.accepts = false := by
  cases ha : g.accepts
  · simp only [Gen.next_refused h ha]
  · simp only [Gen.next_live (Or.inl ⟨h, ha⟩)]; exact ⟨nofun, nofun⟩

theorem Gen.next_live_live {g : Gen} (h : g.Live) : g.next.gen.Live := by
  rw [Gen.next_live h]
  exact Or.inr ⟨_, rfl, Nat.succ_pos _, Nat.mod_lt _ g.den_pos⟩

theorem Gen.after_live {g : Gen} (h : g.Live) (n : Nat) : (g.after n).Live := by
  induction n with
  | zero => exact h
  | succ n ih => exact Gen.next_live_live ih

theorem Gen.next_num_den (g : Gen) : g.next.gen.num = g.num ∧ g.next.gen.den = g.den := by
  unfold Gen.next Gen.advance
  split
  · exact ⟨rfl, rfl⟩
  · split <;> exact ⟨rfl, rfl⟩
  · exact ⟨rfl, rfl⟩

theorem Gen.after_num_den (g : Gen) (n : Nat) : (g.after n).num = g.num ∧ (g.after n).den = g.den := by
  induction n with
  | zero => exact ⟨rfl, rfl⟩
  | succ n ih => exact ⟨(g.after n).next_num_den.1.trans ih.1, (g.after n).next_num_den.2.trans ih.2⟩

theorem Gen.next_balance {g : Gen} (h : g.Live) :
    g.next.gen.pos + g.next.res.count * g.den = g.pos + g.num := by
  rw [Gen.next_live h]
  show (g.pos + g.num - 1) % g.den + 1 + (g.pos + g.num - 1) / g.den * g.den = g.pos + g.num
  rw [Nat.add_right_comm, Nat.mod_add_div',
    Nat.sub_add_cancel (Nat.le_trans g.num_pos (Nat.le_add_left _ _))]

/-- The accumulator invariant: phase + den × (ticks so far) = initial phase + n × num. -/
theorem Gen.balance {g : Gen} (h : g.Live) (n : Nat) :
    (g.after n).pos + g.total n * g.den = g.pos + n * g.num := by
  induction n with
  | zero => show g.pos + 0 * g.den = g.pos + 0 * g.num; rw [Nat.zero_mul, Nat.zero_mul]
  | succ n ih =>
    have := Gen.next_balance (Gen.after_live h n)
    rw [(g.after_num_den n).1, (g.after_num_den n).2] at this
    show (g.after n).next.gen.pos + (g.total n + (g.after n).next.res.count) * g.den = g.pos + (n + 1) * g.num
    rw [Nat.succ_mul, ← Nat.add_assoc, ← ih, Nat.add_mul, Nat.add_left_comm, this, Nat.add_left_comm,
      Nat.add_assoc]

/-- The multiplier in closed form: `n` input ticks into a live generator have produced
    `⌊(pos + n · num − 1) / den⌋` output ticks. `Gen.balance` gives the sum; the phase stays in `(0, den]`, which
    makes it the remainder. -/
theorem Gen.closed_form {g : Gen} (h : g.Live) (n : Nat) :
    g.total n = (g.pos + n * g.num - 1) / g.den ∧ (g.after n).pos = (g.pos + n * g.num - 1) % g.den + 1 := by
  obtain ⟨hp1, hp2⟩ := (Gen.after_live h n).pos_bounds
  rw [(g.after_num_den n).2] at hp2
  have hlt := Nat.sub_one_lt_of_le hp1 hp2
  rw [← Gen.balance h n, Nat.sub_add_comm hp1, Nat.mul_comm, Nat.add_mul_div_left _ _ g.den_pos,
    Nat.add_mul_mod_self_left, Nat.div_eq_of_lt hlt, Nat.mod_eq_of_lt hlt, Nat.zero_add, Nat.sub_add_cancel hp1]
  exact ⟨rfl, rfl⟩

theorem Gen.emit_count {g : Gen} (h : g.Live) (i : Nat) :
    g.emit i = .ticks (g.total (i + 1) - g.total i) := by
  have e : g.total (i + 1) - g.total i = (g.emit i).count := Nat.add_sub_cancel_left _ _
  rw [e, Gen.emit, Gen.next_live (Gen.after_live h i)]; rfl

/-- Any window of `w` input ticks in which the phase accumulator gains a whole number `j` of `den`s
    carries exactly `j` output ticks and leaves the phase where it was. -/
theorem Gen.window {g : Gen} (h : g.Live) (n : Nat) {w j : Nat} (hw : w * g.num = j * g.den) :
    g.total (n + w) = g.total n + j ∧ (g.after (n + w)).pos = (g.after n).pos := by
  have e : g.pos + (n + w) * g.num - 1 = g.pos + n * g.num - 1 + j * g.den := by
    rw [Nat.add_mul, hw, ← Nat.add_assoc]
    exact Nat.sub_add_comm (Nat.le_trans h.pos_bounds.1 (Nat.le_add_right _ _))
  rw [(Gen.closed_form h _).1, (Gen.closed_form h _).2, e, Nat.add_mul_div_right _ _ g.den_pos,
    Nat.add_mul_mod_self_right, ← (Gen.closed_form h n).1, ← (Gen.closed_form h n).2]
  exact ⟨rfl, rfl⟩

theorem mk_live {out inn : Nat} (h : (Gen.mk' out inn).accepts = true) : (Gen.mk' out inn).Live :=
  Or.inl ⟨rfl, h⟩

theorem mk_num {out inn : Nat} (ho : out ≠ 0) (hi : inn ≠ 0) : (Gen.mk' out inn).num = out :=
  if_pos ⟨ho, hi⟩

theorem mk_den {out inn : Nat} (ho : out ≠ 0) (hi : inn ≠ 0) : (Gen.mk' out inn).den = inn :=
  if_pos ⟨ho, hi⟩

/-- with a rate unset the generator runs 1:1 and the rate check is skipped. -/
theorem mk_unset {out inn : Nat} (h : ¬(out ≠ 0 ∧ inn ≠ 0)) :
    (Gen.mk' out inn).num = 1 ∧ (Gen.mk' out inn).den = 1 ∧ (Gen.mk' out inn).accepts = true :=
  ⟨if_neg h, if_neg h, if_neg h⟩

theorem mk_pos (out inn : Nat) : (Gen.mk' out inn).pos = (Gen.mk' out inn).den := rfl

theorem ceil_mul_div (x : Nat) {c : Nat} (hc : 0 < c) : (x * c + c - 1) / c = x := by
  rw [Nat.add_sub_assoc hc, Nat.mul_comm, Nat.mul_add_div hc, Nat.div_eq_of_lt (Nat.sub_one_lt (Nat.ne_of_gt hc)),
    Nat.add_zero]

/-- `⌈(i+1) / d⌉ - ⌈i / d⌉`: the step from `i` to `i+1` crosses a multiple of `d` iff `d ∣ i`. -/
theorem cdiv_step (i d : Nat) (hd : 0 < d) :
    (i + 1 + d - 1) / d - (i + d - 1) / d = if i % d = 0 then 1 else 0 := by
  obtain ⟨e, rfl⟩ := Nat.exists_eq_add_one_of_ne_zero (Nat.ne_of_gt hd)
  show (i + 1 + e) / (e + 1) - (i + e) / (e + 1) = _
  rw [Nat.add_right_comm, Nat.succ_div, Nat.add_sub_cancel_left, Nat.add_assoc]
  simp only [Nat.dvd_iff_mod_eq_zero, Nat.add_mod_right]

/-- a device after one and after `n` timeline ticks: only its multiplier moves. -/
def Dev.step (dv : Dev) : Dev := { dv with gen := dv.gen.next.gen }
def Dev.after (dv : Dev) (n : Nat) : Dev := { dv with gen := dv.gen.after n }

/-- The `device.tick()` calls of one pass of the device loop over compatible devices. -/
def tickCalls (devs : List Dev) : List Nat :=
  devs.flatMap fun dv => List.replicate dv.gen.next.res.count dv.id

theorem devLoop_append_live (pre rest : List Dev) (h : ∀ dv ∈ pre, dv.gen.Live) :
    devLoop (pre ++ rest) = { res := (devLoop rest).res, calls := tickCalls pre ++ (devLoop rest).calls,
                              devs := pre.map Dev.step ++ (devLoop rest).devs } := by
  induction pre with
  | nil => rfl
  | cons x pre ih =>
    simp only [List.cons_append, devLoop, Gen.next_live (h x List.mem_cons_self),
      ih fun dv hd => h dv (List.mem_cons_of_mem _ hd), tickCalls, List.flatMap_cons, List.map_cons,
      List.append_assoc, NextRes.count, Dev.step]

theorem devLoop_live (devs : List Dev) (h : ∀ dv ∈ devs, dv.gen.Live) :
    devLoop devs = { res := .ok, calls := tickCalls devs, devs := devs.map Dev.step } := by
  have := devLoop_append_live devs [] h
  simpa only [List.append_nil, devLoop] using this

theorem callsOf_append (id : Nat) (a b : List Nat) : callsOf id (a ++ b) = callsOf id a + callsOf id b :=
  List.count_append

theorem callsOf_tickCalls_cons (id : Nat) (x : Dev) (rest : List Dev) :
    callsOf id (tickCalls (x :: rest)) =
      (if x.id = id then x.gen.next.res.count else 0) + callsOf id (tickCalls rest) := by
  simp only [callsOf, tickCalls, List.flatMap_cons, List.count_append, List.count_replicate, beq_iff_eq]

theorem callsOf_tickCalls_of_ne (id : Nat) (devs : List Dev) (h : ∀ dv ∈ devs, dv.id ≠ id) :
    callsOf id (tickCalls devs) = 0 := by
  induction devs with
  | nil => rfl
  | cons x rest ih =>
    rw [callsOf_tickCalls_cons, if_neg (h x List.mem_cons_self), ih fun dv hd => h dv (List.mem_cons_of_mem _ hd)]

theorem callsOf_tickCalls {devs : List Dev} (hp : devs.Pairwise (fun a b => a.id ≠ b.id)) {dv : Dev}
    (hd : dv ∈ devs) : callsOf dv.id (tickCalls devs) = dv.gen.next.res.count := by
  induction devs with
  | nil => nomatch hd
  | cons x rest ih =>
    rw [List.pairwise_cons] at hp
    rw [callsOf_tickCalls_cons]
    rcases List.mem_cons.1 hd with rfl | hd
    · rw [if_pos rfl, callsOf_tickCalls_of_ne _ rest fun b hb => (hp.1 b hb).symm, Nat.add_zero]
    · rw [if_neg (hp.1 dv hd), ih hp.2 hd, Nat.zero_add]

theorem TL.tick_live (tl : TL) (h : ∀ dv ∈ tl.devs, dv.gen.Live) :
    tl.tick = { res := .ok, calls := tickCalls tl.devs,
                tl := { tl with devs := tl.devs.map Dev.step, now := tl.now + 1 } } := by
  rw [TL.tick, devLoop_live tl.devs h]

theorem callsOf_after {devs : List Dev} (hp : devs.Pairwise (fun a b => a.id ≠ b.id)) {dv : Dev}
    (hd : dv ∈ devs) (n : Nat) : callsOf dv.id (tickCalls (devs.map (·.after n))) = (dv.gen.emit n).count :=
  callsOf_tickCalls (devs := devs.map (·.after n)) (List.pairwise_map.2 hp) (List.mem_map_of_mem hd)

theorem TL.tick_after {tl : TL} {base : List Dev} (h : ∀ dv ∈ base, dv.gen.Live) {n : Nat}
    (hd : tl.devs = base.map (·.after n)) :
    tl.tick = { res := .ok, calls := tickCalls (base.map (·.after n)),
                tl := { tl with devs := base.map (·.after (n + 1)), now := tl.now + 1 } } := by
  have hl : ∀ dv ∈ tl.devs, dv.gen.Live := hd ▸ List.forall_mem_map.2 fun dv hm => Gen.after_live (h dv hm) n
  rw [TL.tick_live tl hl, hd, List.map_map]; rfl

theorem TL.after_live (tl : TL) (h : ∀ dv ∈ tl.devs, dv.gen.Live) (n : Nat) :
    tl.after n = { tl with devs := tl.devs.map (·.after n), now := tl.now + n } := by
  induction n with
  | zero => show tl = _; rw [List.map_id'' (f := fun d : Dev => d.after 0) fun _ => rfl]; rfl
  | succ n ih => rw [TL.after, ih, TL.tick_after h rfl]; rfl

theorem devLoop_refused {bad : Dev} (hf : bad.gen.st = .fresh) (ha : bad.gen.accepts = false) (post : List Dev) :
    devLoop (bad :: post) = { res := .clockError, calls := [],
                              devs := { bad with gen := { bad.gen with st := .finished } } :: post } := by
  simp only [devLoop, Gen.next_refused hf ha]

/-- A clock target whose `tick()` never touches the clock (does not set the tempo, stop it, or raise). -/
def KeepTarget {τ : Type} (T : Target τ) : Prop := ∀ t, (T.tick t).act = .keep

/-- `s` is a later state of the run that was in state `b`, with `M` the largest reading so far: `k` passes of the
    catch-up loop later, and (`lo`, `hi`) with `M` less than one tick duration after `clock0` — all ticks due by
    `M` are made, none early — which is what makes the number of passes `⌊(M − b.c0) / d⌋`. -/
structure Rel {τ : Type} (b s : Clk τ) (M : Int) : Prop where
  res : s.res = .ok
  running : s.running = true
  d : s.d = b.d
  k : ∃ k : Nat, s.raw = b.raw + k ∧ s.c0 = b.c0 + ((k * b.d : Nat) : Int) ∧ s.gen = b.gen.after k ∧
        s.ticks = b.ticks + b.gen.total k
  lo : s.c0 ≤ M
  hi : M < s.c0 + (b.d : Int)

variable {τ : Type} {T : Target τ}

/-- the target after `n` calls of its `tick()`. -/
def Target.iter (T : Target τ) : Nat → τ → τ
  | 0, t => t
  | n + 1, t => T.iter n (T.tick t).tgt

theorem deliver_keep (hT : KeepTarget T) (n : Nat) (s : Clk τ) :
    deliver T n s = { s with tgt := T.iter n s.tgt, ticks := s.ticks + n } := by
  induction n generalizing s with
  | zero => rfl
  | succ n ih =>
    rw [deliver]
    simp only [hT s.tgt]
    rw [ih, Nat.add_assoc, Nat.add_comm 1]; rfl

theorem catchUp_exit (T : Target τ) (thr : Nat) (now : Int) (f : Nat) (s : Clk τ)
    (hc : ¬ now - s.c0 ≥ (thr : Int)) : catchUp T thr now f s = s := by
  cases f <;> exact if_neg hc

/-- One pass of the catch-up loop when the target leaves the clock alone. -/
def onePass (T : Target τ) (s : Clk τ) : Clk τ :=
  { s with gen := s.gen.next.gen, raw := s.raw + 1, c0 := s.c0 + (s.d : Int),
           tgt := T.iter s.gen.next.res.count s.tgt, ticks := s.ticks + s.gen.next.res.count }

theorem catchUp_keep (hT : KeepTarget T) {thr : Nat} {now : Int} (f : Nat) {s : Clk τ}
    (hl : s.gen.Live) (hres : s.res = .ok) (hc : now - s.c0 ≥ (thr : Int)) :
    catchUp T thr now (f + 1) s = catchUp T thr now f (onePass T s) := by
  rw [catchUp, if_pos hc]
  simp only [onePass, Gen.next_live hl, deliver_keep hT, hres, NextRes.count]

theorem Rel.refl (b : Clk τ) (hres : b.res = .ok) (hrun : b.running = true) (hd : 0 < b.d) :
    Rel b b b.c0 :=
  { res := hres, running := hrun, d := rfl,
    k := ⟨0, rfl, by rw [Nat.zero_mul]; exact (Int.add_zero _).symm, rfl, rfl⟩,
    lo := Int.le_refl _, hi := Int.lt_add_of_pos_right _ (Int.natCast_pos.2 hd) }

/-- After a pass the clock stands as if it had just read the due time of the tick it made. -/
theorem Rel.pass (T : Target τ) {b s : Clk τ} {M : Int} (hd : 0 < b.d) (h : Rel b s M) :
    Rel b (onePass T s) (s.c0 + (b.d : Int)) := by
  obtain ⟨k, k1, k2, k3, k4⟩ := h.k
  rw [onePass, h.d]
  refine { res := h.res, running := h.running, d := rfl, k := ⟨k + 1, ?_, ?_, ?_, ?_⟩,
           lo := Int.le_refl _, hi := Int.lt_add_of_pos_right _ (Int.natCast_pos.2 hd) }
  · rw [k1]; rfl
  · rw [k2, Nat.succ_mul, Int.natCast_add, Int.add_assoc]
  · rw [k3]; rfl
  · rw [k4, k3, Nat.add_assoc]; rfl

theorem Rel.exit {b s : Clk τ} {M now : Int} (h : Rel b s M) (hc : ¬ now - s.c0 ≥ (b.d : Int)) (f : Nat) :
    Rel b (catchUp T b.d now f s) (max M now) := by
  rw [catchUp_exit T b.d now f s hc]
  exact { h with lo := Int.le_trans h.lo (Int.le_max_left _ _),
                 hi := Int.max_lt.2 ⟨h.hi, Int.lt_add_of_sub_left_lt (Int.not_le.1 hc)⟩ }

theorem catchUp_rel (hT : KeepTarget T) {b s : Clk τ} {M : Int} (hd : 0 < b.d) (hl : b.gen.Live)
    (h : Rel b s M) (now : Int) (fuel : Nat) (hf : now - s.c0 < (fuel : Int)) :
    Rel b (catchUp T b.d now fuel s) (max M now) := by
  induction fuel generalizing s M with
  | zero => exact h.exit (Int.not_le.2 (Int.lt_of_lt_of_le hf (Int.ofNat_le.2 b.d.zero_le))) 0
  | succ f ih =>
    by_cases hc : now - s.c0 ≥ (b.d : Int)
    · obtain ⟨k, -, -, k3, -⟩ := h.k
      have hdue : s.c0 + (b.d : Int) ≤ now := Int.add_le_of_le_sub_left hc
      -- both the largest reading so far and the due time of this pass lie before `now`
      rw [Int.max_eq_right (Int.le_trans (Int.le_of_lt h.hi) hdue),
        catchUp_keep hT f (k3 ▸ Gen.after_live hl k) h.res hc]
      have := ih (h.pass T hd) (by show now - (s.c0 + (s.d : Int)) < f; rw [h.d]; omega)
      rwa [Int.max_eq_right hdue] at this
    · exact h.exit hc _

theorem wake_rel (hT : KeepTarget T) {b s : Clk τ} {M : Int} (hd : 0 < b.d) (hl : b.gen.Live)
    (h : Rel b s M) (now : Int) : Rel b (s.wake T now) (max M now) := by
  rw [Clk.wake, h.res]
  simp only [h.running, if_true]
  rw [h.d]
  exact catchUp_rel hT hd hl h now _ (Int.lt_add_one_iff.2 (Int.self_le_toNat _))

theorem run_rel (hT : KeepTarget T) {b s : Clk τ} {M : Int} (hd : 0 < b.d) (hl : b.gen.Live)
    (h : Rel b s M) (ws : List Int) : Rel b (s.run T (ws.map Ev.wake)) (ws.foldl max M) := by
  induction ws generalizing s M with
  | nil => exact h
  | cons w ws ih => exact ih (wake_rel hT hd hl h w)

theorem toNat_ediv_lt {t0 x : Int} {d k : Nat} (hd : 0 < d) (hx : t0 ≤ x) :
    ((x - t0) / (d : Int)).toNat < k ↔ x < t0 + (k : Int) * d := by
  rw [Int.toNat_lt (Int.ediv_nonneg (Int.sub_nonneg.2 hx) (Int.natCast_nonneg d)),
    Int.ediv_lt_iff_lt_mul (Int.natCast_pos.2 hd)]
  exact ⟨Int.lt_add_of_sub_left_lt, Int.sub_left_lt_of_lt_add⟩

/-- Readings that never go backwards, starting at or after `a`. -/
def Nondecreasing : Int → List Int → Prop
  | _, [] => True
  | a, w :: ws => a ≤ w ∧ Nondecreasing w ws

instance Nondecreasing.dec : ∀ (a : Int) (ws : List Int), Decidable (Nondecreasing a ws)
  | _, [] => isTrue trivial
  | a, w :: ws =>
    match Nondecreasing.dec w ws with
    | isTrue h2 => if h1 : a ≤ w then isTrue ⟨h1, h2⟩ else isFalse (fun h => h1 h.1)
    | isFalse h2 => isFalse (fun h => h2 h.2)

theorem foldl_max_nondecreasing (ws : List Int) (a : Int) (h : Nondecreasing a ws) :
    ws.foldl max a = ws.getLastD a := by
  induction ws generalizing a with
  | nil => rfl
  | cons w ws ih => rw [List.foldl_cons, List.getLastD_cons, Int.max_eq_right h.1, ih w h.2]

theorem Nondecreasing.append_last (ws : List Int) (a w : Int) (h : Nondecreasing a (ws ++ [w])) :
    Nondecreasing a ws ∧ ws.getLastD a ≤ w ∧ a ≤ ws.getLastD a ∧ (ws ++ [w]).getLastD a = w := by
  induction ws generalizing a with
  | nil => exact ⟨trivial, h.1, Int.le_refl _, rfl⟩
  | cons x xs ih =>
    have := ih x h.2
    simp only [List.cons_append, List.getLastD_cons]
    exact ⟨⟨h.1, this.1⟩, this.2.1, Int.le_trans h.1 this.2.2.1, this.2.2.2⟩

theorem Clk.wake_halted (T : Target τ) (s : Clk τ) (now : Int)
    (h : s.running = false ∨ s.res ≠ .ok) : s.wake T now = s := by
  unfold Clk.wake
  split
  · rcases h with h | h
    · simp only [h, Bool.false_eq_true, if_false]
    · contradiction
  · rfl

/-- Once stopped (or once an exception has ended `run()`), nothing more is delivered. -/
theorem run_halted (T : Target τ) (evs : List Ev) (s : Clk τ) (h : s.running = false ∨ s.res ≠ .ok) :
    (s.run T evs).ticks = s.ticks ∧ (s.run T evs).raw = s.raw := by
  induction evs generalizing s with
  | nil => exact ⟨rfl, rfl⟩
  | cons e evs ih =>
    cases e with
    | wake now =>
      show ((s.wake T now).run T evs).ticks = _ ∧ ((s.wake T now).run T evs).raw = _
      rw [Clk.wake_halted T s now h]; exact ih s h
    | setDur d => exact ih { s with d := d } h
    | stop => exact ih { s with running := false } (Or.inl rfl)

theorem MidiIn.recv_calls (m : MidiIn) (x : Msg) :
    (m.recv x).hasTarget = m.hasTarget ∧
    (m.recv x).calls = match x.call with
      | some c => if m.hasTarget then m.calls ++ [c] else m.calls
      | none => m.calls := by
  obtain ⟨ht, hc, _, _, _, _⟩ := m
  cases ht <;> cases x with
  | note id => cases hc <;> exact ⟨rfl, rfl⟩
  | songpos p => cases p <;> exact ⟨rfl, rfl⟩
  | _ => exact ⟨rfl, rfl⟩

/-- `s` is what `s0` has become after `c` clock messages (and any others), none of whose ticks raised. -/
structure Slave.At (s0 s : Slave) (c : Nat) : Prop where
  errs : s.errs = s0.errs
  len : s.log.length = s0.log.length + c
  devs : s.tl.devs = s0.tl.devs.map (·.after c)
  calls : ∀ dv ∈ s0.tl.devs, callsOf dv.id s.log.flatten = callsOf dv.id s0.log.flatten + dv.gen.total c

theorem Slave.At.refl (s : Slave) : Slave.At s s 0 :=
  { errs := rfl, len := rfl, devs := (List.map_id'' (fun _ => rfl) _).symm, calls := fun _ _ => rfl }

theorem Slave.At.recv {s0 s : Slave} {c : Nat} (hl : ∀ dv ∈ s0.tl.devs, dv.gen.Live)
    (hp : s0.tl.devs.Pairwise (fun a b => a.id ≠ b.id)) (h : Slave.At s0 s c) (m : Msg) :
    Slave.At s0 (s.recv m) (c + if m == .clock then 1 else 0) ∧
    (m ≠ .songpos 0 → (s.recv m).tl.now = s.tl.now + if m == .clock then 1 else 0) := by
  cases m with
  | clock =>
    simp only [Slave.recv, Msg.call, TL.tick_after hl h.devs]
    refine ⟨⟨h.errs, ?_, rfl, fun dv hd => ?_⟩, fun _ => rfl⟩
    · rw [List.length_append, h.len]; rfl
    · rw [List.flatten_append, List.flatten_singleton, callsOf_append, h.calls dv hd, callsOf_after hp hd c,
        Nat.add_assoc]; rfl
  | songpos p =>
    cases p with
    | zero => exact ⟨⟨h.errs, h.len, h.devs, h.calls⟩, fun hne => absurd rfl hne⟩
    | succ p => exact ⟨h, fun _ => rfl⟩
  | _ => exact ⟨h, fun _ => rfl⟩

theorem Slave.run_live {s0 : Slave} (hl : ∀ dv ∈ s0.tl.devs, dv.gen.Live)
    (hp : s0.tl.devs.Pairwise (fun a b => a.id ≠ b.id)) {s : Slave} {c : Nat} (h : Slave.At s0 s c)
    (msgs : List Msg) :
    Slave.At s0 (s.run msgs) (msgs.count .clock + c) ∧
      ((∀ m ∈ msgs, m ≠ .songpos 0) → (s.run msgs).tl.now = s.tl.now + msgs.count .clock) := by
  induction msgs generalizing s c with
  | nil => exact ⟨c.zero_add.symm ▸ h, fun _ => rfl⟩
  | cons m ms ih =>
    obtain ⟨h1, hnow⟩ := h.recv hl hp m
    obtain ⟨i1, i2⟩ := ih h1
    refine ⟨?_, fun hno => ?_⟩
    · rw [List.count_cons, Nat.add_assoc, Nat.add_comm _ c]; exact i1
    · rw [List.count_cons, Nat.add_comm (ms.count _), ← Nat.add_assoc, ← hnow (hno m List.mem_cons_self)]
      exact i2 fun m' hm' => hno m' (List.mem_cons_of_mem _ hm')
end IsobarV.Clock
