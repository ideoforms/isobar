/-
The lemmas behind property C19: decoding what the MIDI port, the MIDI-file device and the OSC device encode gives
back what was asked for, and the tables of the MPE channel allocator keep their invariants through every call.
-/
import IsobarV.IO.Spec

namespace IsobarV.IO

/-- a status byte: kind nibble `k` and channel `c` -/
theorem status_split (k : Nat) {c : Nat} (hc : c < 16) : (k * 16 + c) / 16 = k ∧ (k * 16 + c) % 16 = c :=
  ⟨by rw [Nat.mul_comm, Nat.mul_add_div (by decide), Nat.div_eq_of_lt hc]; rfl,
    by rw [Nat.mul_comm, Nat.mul_add_mod, Nat.mod_eq_of_lt hc]⟩

theorem decode_encode (m : Msg) (h : m.Valid) : decode (encode m) = some m := by
  cases m
  case noteOn n v c =>
    -- the data bytes pass the range check; `encode` writes the status byte `144 + c`, `status_split 9` speaks of
    -- `9 * 16 + c`, and `rw` matches the two by evaluating `9 * 16`
    obtain ⟨h1, h2⟩ := status_split 9 h.2.2
    refine (if_pos ⟨h.1, h.2.1⟩).trans ?_
    rw [h1, h2]; rfl
  case noteOff n v c =>
    obtain ⟨h1, h2⟩ := status_split 8 h.2.2
    refine (if_pos ⟨h.1, h.2.1⟩).trans ?_
    rw [h1, h2]; rfl
  case control k v c =>
    obtain ⟨h1, h2⟩ := status_split 11 h.2.2
    refine (if_pos ⟨h.1, h.2.1⟩).trans ?_
    rw [h1, h2]; rfl
  case program p c =>
    obtain ⟨h1, h2⟩ := status_split 12 h.2
    refine (if_pos h.1).trans ?_
    rw [h1, h2]; rfl
  case aftertouch v c =>
    obtain ⟨h1, h2⟩ := status_split 13 h.2
    refine (if_pos h.1).trans ?_
    rw [h1, h2]; rfl
  case bend p c =>
    obtain ⟨h1, h2⟩ := status_split 14 h.2.2
    -- `p + 8192` is a 14-bit number `q`, and its two 7-bit halves spell `q`
    obtain ⟨q, hq⟩ := Int.eq_ofNat_of_zero_le (Int.add_le_add_right h.1 8192)
    have e : ((q % 128 : Nat) : Int) + ((q / 128 : Nat) : Int) * 128 - 8192 = p := by
      rw [show _ + _ * 128 = (q : Int) from congrArg Nat.cast (Nat.mod_add_div' q 128), ← hq]
      exact Int.add_sub_cancel ..
    have := h.2.1
    unfold encode decode
    dsimp only
    rw [hq, Int.toNat_natCast, if_pos ⟨Nat.mod_lt _ (by decide), Nat.div_lt_of_lt_mul (by omega)⟩, h1, h2, e]; rfl

theorem data7_some {i : Int} (h : 0 ≤ i ∧ i ≤ 127) : data7 i = some i.toNat := if_pos h
theorem chan4_some {i : Int} (h : 0 ≤ i ∧ i ≤ 15) : chan4 i = some i.toNat := if_pos h
theorem pitch14_some {i : Int} (h : -8192 ≤ i ∧ i ≤ 8191) : pitch14 i = some i := if_pos h

theorem toNat_lt_succ {i : Int} {k : Nat} (h : i ≤ k) : i.toNat < k + 1 :=
  Nat.lt_succ_of_le (Int.toNat_le.2 h)

theorem of_ite_some {α : Type} {P : Prop} [Decidable P] {a b : α} (h : (if P then some a else none) = some b) :
    a = b ∧ P := by
  split at h
  · exact ⟨Option.some.inj h, ‹P›⟩
  · cases h

theorem data7_none {i : Int} (h : data7 i = none) : i < 0 ∨ 127 < i := by
  unfold data7 at h
  split at h
  · cases h
  · omega

/-- The message a request asks for: every field is the `int()` of its argument. -/
def Req.msg : Req → Msg
  | .noteOn n v c => .noteOn n.trunc.toNat v.trunc.toNat c.trunc.toNat
  | .noteOff n c => .noteOff n.trunc.toNat 64 c.trunc.toNat
  | .control k v c => .control k.trunc.toNat v.trunc.toNat c.trunc.toNat
  | .program p c => .program p.trunc.toNat c.trunc.toNat
  | .bend p c => .bend p.trunc c.trunc.toNat
  | .aftertouch v c => .aftertouch v.trunc.toNat c.trunc.toNat

theorem resolve_some {r : Req} {m : Msg} (h : resolve r = some m) : m = r.msg ∧ m.Valid := by
  cases r <;> rw [resolve] at h <;> split at h <;> cases h
  next hn hv hc =>
    obtain ⟨rfl, n⟩ := of_ite_some hn
    obtain ⟨rfl, v⟩ := of_ite_some hv
    obtain ⟨rfl, c⟩ := of_ite_some hc
    exact ⟨rfl, toNat_lt_succ n.2, toNat_lt_succ v.2, toNat_lt_succ c.2⟩
  next hn hc =>
    obtain ⟨rfl, n⟩ := of_ite_some hn
    obtain ⟨rfl, c⟩ := of_ite_some hc
    exact ⟨rfl, toNat_lt_succ n.2, by decide, toNat_lt_succ c.2⟩
  next hk hv hc =>
    obtain ⟨rfl, k⟩ := of_ite_some hk
    obtain ⟨rfl, v⟩ := of_ite_some hv
    obtain ⟨rfl, c⟩ := of_ite_some hc
    exact ⟨rfl, toNat_lt_succ k.2, toNat_lt_succ v.2, toNat_lt_succ c.2⟩
  next hp hc =>
    obtain ⟨rfl, p⟩ := of_ite_some hp
    obtain ⟨rfl, c⟩ := of_ite_some hc
    exact ⟨rfl, toNat_lt_succ p.2, toNat_lt_succ c.2⟩
  next hp hc =>
    obtain ⟨rfl, p⟩ := of_ite_some hp
    obtain ⟨rfl, c⟩ := of_ite_some hc
    exact ⟨rfl, p.1, p.2, toNat_lt_succ c.2⟩
  next hv hc =>
    obtain ⟨rfl, v⟩ := of_ite_some hv
    obtain ⟨rfl, c⟩ := of_ite_some hc
    exact ⟨rfl, toNat_lt_succ v.2, toNat_lt_succ c.2⟩

theorem port_roundtrip (r : Req) : (portSend r).bind decode = resolve r := by
  unfold portSend
  cases h : resolve r with
  | none => rfl
  | some m => exact decode_encode m (resolve_some h).2

/-- for a non-negative float in [k, k+1): int() gives k -/
theorem trunc_flt_floor (num : Int) (den k : Nat) (hd : 0 < den) (h0 : (k : Int) * den ≤ num) (h1 : num < ((k : Int) + 1) * den) :
    (Num.flt num den).trunc = k := by
  have hd' : (0 : Int) < den := Int.natCast_pos.2 hd
  have hn : 0 ≤ num := Int.le_trans (Int.mul_nonneg (Int.natCast_nonneg _) (Int.natCast_nonneg _)) h0
  show num.tdiv den = k
  rw [Int.tdiv_eq_ediv_of_nonneg hn]
  exact Int.le_antisymm (Int.lt_add_one_iff.1 ((Int.ediv_lt_iff_lt_mul hd').2 h1)) ((Int.le_ediv_iff_mul_le hd').2 h0)

theorem absolutise_append (t : Nat) (a b : List FileMsg) :
    absolutise t (a ++ b) = absolutise t a ++ absolutise (t + sumDelta a) b := by
  induction a generalizing t with
  | nil => rfl
  | cons m ms ih => simp only [List.cons_append, absolutise, sumDelta, ih, Nat.add_assoc]

theorem sumDelta_append (a b : List FileMsg) : sumDelta (a ++ b) = sumDelta a + sumDelta b := by
  induction a with
  | nil => exact (Nat.zero_add _).symm
  | cons m ms ih => simp only [List.cons_append, sumDelta, ih, Nat.add_assoc]

/-- `MidiFileOutputDevice` between two calls: the last message was not written in the future, and the delta times
    written so far add up to its time, so that the next delta `now - last` puts a message at `now`. -/
structure FileInv (d : FileDev) : Prop where
  le : d.last ≤ d.now
  sum : sumDelta d.track = d.last

theorem FileInv.absolutise_snoc {d : FileDev} (h : FileInv d) (m : Msg) :
    absolutise 0 (d.track ++ [{ delta := d.now - d.last, msg := m }]) = absolutise 0 d.track ++ [(d.now, m)] := by
  rw [absolutise_append, Nat.zero_add, h.sum]
  show _ ++ [(d.last + (d.now - d.last), m)] = _
  rw [Nat.add_sub_cancel' h.le]

theorem FileInv.append {d : FileDev} (h : FileInv d) (r : Req) : FileInv (d.append r).dev := by
  rw [FileDev.append]
  cases resolve r with
  | none => exact h
  | some m =>
    refine ⟨Nat.le_refl _, ?_⟩
    show sumDelta (d.track ++ _) = d.now
    rw [sumDelta_append, h.sum]; exact Nat.add_sub_cancel' h.le

theorem FileInv.step {d : FileDev} (h : FileInv d) (op : FileOp) : FileInv (d.step op).dev := by
  cases op with
  | tick => exact ⟨Nat.le_succ_of_le h.le, h.sum⟩
  | noteOn | noteOff => exact h.append _

theorem FileInv.append_track {d : FileDev} (h : FileInv d) (r : Req) :
    (d.append r).dev.now = d.now
    ∧ absolutise 0 (d.append r).dev.track = absolutise 0 d.track ++ (resolve r).toList.map (Prod.mk d.now) := by
  rw [FileDev.append]
  cases resolve r with
  | none => exact ⟨rfl, (List.append_nil _).symm⟩
  | some m => exact ⟨rfl, h.absolutise_snoc m⟩

/-- What `write()` saves after any history from a consistent device: what was there, the accepted requests at
    their ticks, and the dummy note-off at the final tick. -/
theorem written_log (d : FileDev) (h : FileInv d) (ops : List FileOp) :
    absolutise 0 (d.run ops).written
      = absolutise 0 d.track ++ (requestLog d.now ops ++ [(d.now + ticksIn ops, .noteOff 0 64 0)]) := by
  induction ops generalizing d with
  | nil => exact h.absolutise_snoc _
  | cons op ops ih =>
    rw [FileDev.run, ih _ (h.step op)]
    cases op with
    | tick => rw [requestLog, ticksIn, Nat.add_comm (ticksIn ops), ← Nat.add_assoc]; rfl
    | noteOn | noteOff =>
      rw [FileDev.step, (h.append_track _).1, (h.append_track _).2, List.append_assoc, requestLog]
      cases resolve _ <;> rfl

theorem readString_oscString (s rest : List Nat) (hs : ∀ b ∈ s, b ≠ 0) :
    readString (oscString s ++ rest) = some { val := s, rest := rest } := by
  have hr : s.length % 4 < 4 := Nat.mod_lt _ (by decide)
  -- the string ends at the first NUL of the padding, of which there is at least one
  have htw : (oscString s ++ rest).takeWhile (fun b => b ≠ 0) = s := by
    obtain ⟨k, hk⟩ := Nat.exists_eq_add_one_of_ne_zero (Nat.sub_ne_zero_of_lt hr)
    rw [oscString, hk, List.replicate_succ, List.append_assoc,
      List.takeWhile_append_of_pos (fun b hb => decide_eq_true (hs b hb))]
    exact List.append_nil s
  have hlen : (oscString s).length = (s.length / 4 + 1) * 4 := by
    rw [oscString, List.length_append, List.length_replicate, Nat.add_mul, Nat.one_mul]
    conv => lhs; lhs; rw [← Nat.div_add_mod' s.length 4]
    rw [Nat.add_assoc, Nat.add_sub_cancel' (Nat.le_of_lt hr)]
  unfold readString
  simp only [htw]
  rw [if_pos (by rw [List.length_append, hlen]; exact Nat.le_add_right ..), List.drop_left' hlen]

/-- the last two base-256 digits of `n / k` -/
theorem digit256 (n k : Nat) : n / (k * 256) * 256 + n / k % 256 = n / k := by
  rw [← Nat.div_div_eq_div_mul, Nat.mul_comm]; exact Nat.div_add_mod ..

theorem readBE32_be32 (n : Nat) (h : n < 4294967296) (rest : List Nat) :
    readBE32 (be32 n ++ rest) = some { val := n, rest := rest } := by
  have e : ((n / 16777216 % 256 * 256 + n / 65536 % 256) * 256 + n / 256 % 256) * 256 + n % 256 = n := by
    rw [Nat.mod_eq_of_lt (a := n / 16777216) (Nat.div_lt_of_lt_mul h), digit256 n 65536, digit256 n 256]
    exact Nat.div_add_mod' n 256
  exact congrArg (fun v => some (Cut.mk v rest)) e

theorem readBE64_be64 (n : Nat) (h : n < 18446744073709551616) (rest : List Nat) :
    readBE64 (be64 n ++ rest) = some { val := n, rest := rest } := by
  unfold readBE64 be64
  rw [List.append_assoc, readBE32_be32 _ (Nat.div_lt_of_lt_mul h)]
  dsimp only
  rw [readBE32_be32 _ (Nat.mod_lt _ (by decide))]
  exact congrArg (fun v => some (Cut.mk v rest)) (Nat.div_add_mod' n 4294967296)

/-- two's complement: `i` in `-h ≤ i < h` reduced modulo `2 * h` fits below `2 * h`, and read back as a signed
    number it is `i` -/
theorem signed_emod {h : Nat} {i : Int} (h1 : -(h : Int) ≤ i) (h2 : i < h) :
    (i % (2 * h : Nat)).toNat < 2 * h ∧ signed (2 * h) (i % (2 * h : Nat)).toNat = i := by
  by_cases hi : 0 ≤ i
  · obtain ⟨k, rfl⟩ := Int.eq_ofNat_of_zero_le hi
    have hk : k < 2 * h ∧ ¬2 * k ≥ 2 * h := by omega
    rw [Int.emod_eq_of_lt hi (Int.ofNat_lt.2 hk.1), Int.toNat_natCast, signed, if_neg hk.2]
    exact ⟨hk.1, rfl⟩
  · -- a negative `i` goes out as `k = i + 2 * h`
    obtain ⟨k, e⟩ := Int.eq_ofNat_of_zero_le (show 0 ≤ i + (2 * h : Nat) by omega)
    have hk : k < 2 * h ∧ 2 * k ≥ 2 * h := by omega
    rw [Int.emod_eq_add_self_emod, e, Int.emod_eq_of_lt (Int.natCast_nonneg k) (Int.ofNat_lt.2 hk.1),
      Int.toNat_natCast, signed, if_pos hk.2, ← e]
    exact ⟨hk.1, Int.add_sub_cancel ..⟩

theorem signed32 {i : Int} (h : fitsI32 i = true) :
    (i % 4294967296).toNat < 4294967296 ∧ signed 4294967296 (i % 4294967296).toNat = i :=
  have h := of_decide_eq_true h
  signed_emod (h := 2147483648) (Int.le_of_lt h.1) h.2

theorem signed64 {i : Int} (h : fitsI64 i = true) :
    (i % 18446744073709551616).toNat < 18446744073709551616
      ∧ signed 18446744073709551616 (i % 18446744073709551616).toNat = i :=
  have h := of_decide_eq_true h
  signed_emod (h := 9223372036854775808) h.1 h.2

/-- One argument: a receiver that knows its tag reads its payload off the front of the data and gets the
    argument back, whatever follows. -/
theorem parseArgs_cons (f32 : Nat → Nat) (a : OArg) (hok : a.Ok f32) {d : List Nat} (hd : argData f32 a = some d)
    (ts data : List Nat) :
    parseArgs (argTag a :: ts) (d ++ data) = (parseArgs ts data).map (a.parsed f32 :: ·) := by
  cases a with
  | int i =>
    rw [argData] at hd
    rw [argTag, OArg.parsed]
    by_cases h32 : fitsI32 i = true
    · rw [if_pos h32] at hd ⊢
      cases hd
      rw [if_pos h32, parseArgs, if_pos rfl, readBE32_be32 _ (signed32 h32).1]
      dsimp only
      rw [(signed32 h32).2]
    · rw [if_neg h32] at hd ⊢
      rw [if_neg h32]
      split at hd
      · next h64 =>
        cases hd
        rw [parseArgs, if_neg (by decide), if_pos rfl, readBE64_be64 _ (signed64 h64).1]
        dsimp only
        rw [(signed64 h64).2]
      · cases hd
  | float x =>
    cases hd
    show parseArgs (102 :: ts) _ = _
    rw [parseArgs, if_neg (by decide), if_neg (by decide), if_pos rfl, readBE32_be32 _ hok]
    rfl
  | str s =>
    cases hd
    show parseArgs (115 :: ts) _ = _
    rw [parseArgs, if_neg (by decide), if_neg (by decide), if_neg (by decide), if_pos rfl, readString_oscString s data hok]
    rfl
  | bool b => cases hd; cases b <;> rfl

theorem parseArgs_encArgs (f32 : Nat → Nat) (args : List OArg) (ds : List Nat)
    (hok : ∀ a ∈ args, a.Ok f32) (h : encArgs f32 args = some ds) :
    parseArgs (args.map argTag) ds = some (args.map (OArg.parsed f32)) := by
  induction args generalizing ds with
  | nil => cases h; rfl
  | cons a as ih =>
    rw [encArgs] at h
    split at h
    · next d ds' hd hds =>
      cases h
      obtain ⟨ha, hok⟩ := List.forall_mem_cons.1 hok
      rw [List.map_cons, parseArgs_cons f32 a ha hd, ih ds' hok hds]
      rfl
    · cases h

theorem argTag_ne_zero (a : OArg) : argTag a ≠ 0 := by
  cases a with
  | int i => rw [argTag]; split <;> decide
  | float _ => exact Nat.succ_ne_zero 101
  | str _ => exact Nat.succ_ne_zero 114
  | bool b => cases b <;> decide

theorem parseOSC_encodeOSC (f32 : Nat → Nat) (addr : List Nat) (args : List OArg) (dg : List Nat)
    (haddr : ∀ b ∈ addr, b ≠ 0) (hok : ∀ a ∈ args, a.Ok f32)
    (h : encodeOSC f32 addr args = some dg) :
    parseOSC dg = some { addr := addr, args := args.map (OArg.parsed f32) } := by
  unfold encodeOSC at h
  split at h
  · cases h
  · split at h
    · next ds hds =>
      cases h
      have htags : ∀ b ∈ (44 :: args.map argTag), b ≠ 0 :=
        List.forall_mem_cons.2 ⟨by decide, List.forall_mem_map.2 fun a _ => argTag_ne_zero a⟩
      unfold parseOSC
      rw [List.append_assoc, readString_oscString addr _ haddr]
      dsimp only
      rw [readString_oscString _ ds htags]
      dsimp only
      show Option.map _ (parseArgs (args.map argTag) ds) = _
      rw [parseArgs_encArgs f32 args ds hok hds]
      rfl
    · cases h

/-- the device forms: an address and three arguments -/
theorem parseOSC_three (f32 : Nat → Nat) (addr : List Nat) (a b c : OArg) (dg : List Nat)
    (haddr : ∀ x ∈ addr, x ≠ 0) (ha : a.Ok f32) (hb : b.Ok f32) (hc : c.Ok f32)
    (h : encodeOSC f32 addr [a, b, c] = some dg) :
    parseOSC dg = some { addr := addr, args := [a.parsed f32, b.parsed f32, c.parsed f32] } :=
  parseOSC_encodeOSC f32 addr [a, b, c] dg haddr
    (List.forall_mem_cons.2 ⟨ha, List.forall_mem_cons.2 ⟨hb, List.forall_mem_singleton.2 hc⟩⟩) h

theorem argData_some (f32 : Nat → Nat) (a : OArg) (h : ∀ i, a = .int i → fitsI64 i = true) :
    ∃ d, argData f32 a = some d := by
  cases a with
  | int i =>
    by_cases h32 : fitsI32 i = true
    · exact ⟨_, if_pos h32⟩
    · exact ⟨_, (if_neg h32).trans (if_pos (h i rfl))⟩
  | _ => exact ⟨_, rfl⟩

theorem encArgs_some (f32 : Nat → Nat) (args : List OArg) (h : ∀ i, OArg.int i ∈ args → fitsI64 i = true) :
    ∃ ds, encArgs f32 args = some ds := by
  induction args with
  | nil => exact ⟨[], rfl⟩
  | cons a as ih =>
    obtain ⟨d, hd⟩ := argData_some f32 a fun i e => h i (e ▸ List.mem_cons_self)
    obtain ⟨ds, hds⟩ := ih fun i hi => h i (List.mem_cons_of_mem _ hi)
    exact ⟨d ++ ds, by rw [encArgs, hd, hds]⟩

theorem upd_same {α : Type} (f : Nat → α) (k : Nat) (v : α) : upd f k v k = v := if_pos rfl
theorem upd_other {α : Type} (f : Nat → α) (k x : Nat) (v : α) (h : x ≠ k) : upd f k v x = f x := if_neg h

theorem upd_eq {α : Type} {f : Nat → α} {k x : Nat} {v y : α} (h : upd f k v x = y) :
    x = k ∧ v = y ∨ x ≠ k ∧ f x = y := by
  by_cases hx : x = k
  · rw [hx, upd_same] at h; exact .inl ⟨hx, h⟩
  · rw [upd_other _ _ _ _ hx] at h; exact .inr ⟨hx, h⟩

theorem upd_ne {α : Type} {f : Nat → α} {k x : Nat} {v y : α} (h : upd f k v x = y) (hv : v ≠ y) :
    x ≠ k ∧ f x = y :=
  (upd_eq h).resolve_left fun e => hv e.2

theorem mpeChannels_eq : mpeChannels = List.range' 1 15 := by decide

theorem mem_mpeChannels {c : Nat} : c ∈ mpeChannels ↔ 1 ≤ c ∧ c ≤ 15 :=
  mpeChannels_eq ▸ List.mem_range'_1.trans (and_congr_right' Nat.lt_succ_iff)

theorem mpeChannels_nodup : mpeChannels.Nodup := mpeChannels_eq ▸ List.nodup_range'

theorem nextChannel_some {s : MPE} {c : Nat} (h : s.nextChannel = some c) : c ∈ mpeChannels ∧ s.chans c = none :=
  ⟨List.mem_of_find?_eq_some h, Option.isNone_iff_eq_none.1 (List.find?_some (p := fun c => (s.chans c).isNone) h)⟩

theorem nextChannel_eq_none {s : MPE} : s.nextChannel = none ↔ s.occupied = 15 := by
  refine List.find?_eq_none.trans (Iff.trans ?_ (List.length_filter_eq_length_iff (l := mpeChannels)).symm)
  refine forall₂_congr fun c _ => ?_
  cases s.chans c <;> simp

theorem occupied_le (s : MPE) : s.occupied ≤ 15 :=
  List.length_filter_le _ mpeChannels

/-- invariants of the allocator tables that hold after EVERY history of calls -/
structure Inv (s : MPE) : Prop where
  held_lt : ∀ n i, s.notes n = .held i → i < s.nextId
  held_chan : ∀ n i, s.notes n = .held i → s.chans (s.objCh i) = some i
  held_note : ∀ n i, s.notes n = .held i → s.objNote i = n
  chan_lt : ∀ c i, s.chans c = some i → i < s.nextId
  chan_ch : ∀ c i, s.chans c = some i → s.objCh i = c
  chan_mem : ∀ c i, s.chans c = some i → c ∈ mpeChannels
  down_chan : ∀ i, s.down i = true → s.chans (s.objCh i) = some i

theorem init_notes (n i : Nat) : MPE.init.notes n ≠ .held i := by
  show (if n < 128 then Slot.never else Slot.absent) ≠ _
  split <;> nofun

theorem Inv.init : Inv MPE.init where
  held_lt n i h := absurd h (init_notes n i)
  held_chan n i h := absurd h (init_notes n i)
  held_note n i h := absurd h (init_notes n i)
  chan_lt _ _ h := nomatch h
  chan_ch _ _ h := nomatch h
  chan_mem _ _ h := nomatch h
  down_chan _ h := nomatch h

theorem Inv.alloc {s : MPE} (h : Inv s) (n : Nat) {c : Nat} (hc : s.nextChannel = some c) : Inv (s.alloc n c) := by
  obtain ⟨hc, hfree⟩ := nextChannel_some hc
  -- an object that owns a channel was made earlier and sits on another channel than the free one,
  -- so its entries are the old ones
  have old : ∀ i, s.chans (s.objCh i) = some i →
      (s.alloc n c).objNote i = s.objNote i ∧ (s.alloc n c).chans ((s.alloc n c).objCh i) = some i := fun i hi => by
    have hne : i ≠ s.nextId := Nat.ne_of_lt (h.chan_lt _ i hi)
    refine ⟨upd_other _ _ _ _ hne, ?_⟩
    rw [show (s.alloc n c).objCh i = s.objCh i from upd_other _ _ _ _ hne]
    exact (upd_other _ _ _ _ fun e => by rw [e, hfree] at hi; cases hi).trans hi
  have new : (s.alloc n c).chans ((s.alloc n c).objCh s.nextId) = some s.nextId := by
    rw [show (s.alloc n c).objCh s.nextId = c from upd_same ..]; exact upd_same ..
  -- every entry read is the one just written (object `s.nextId`) or an old one
  exact {
    held_lt := fun n' i hi => by
      rcases upd_eq hi with ⟨rfl, e⟩ | ⟨_, hi⟩
      · cases e; exact Nat.lt_succ_self _
      · exact Nat.lt_succ_of_lt (h.held_lt n' i hi)
    held_chan := fun n' i hi => by
      rcases upd_eq hi with ⟨rfl, e⟩ | ⟨_, hi⟩
      · cases e; exact new
      · exact (old i (h.held_chan n' i hi)).2
    held_note := fun n' i hi => by
      rcases upd_eq hi with ⟨rfl, e⟩ | ⟨_, hi⟩
      · cases e; exact upd_same ..
      · exact (old i (h.held_chan n' i hi)).1.trans (h.held_note n' i hi)
    chan_lt := fun c' i hi => by
      rcases upd_eq hi with ⟨rfl, e⟩ | ⟨_, hi⟩
      · cases e; exact Nat.lt_succ_self _
      · exact Nat.lt_succ_of_lt (h.chan_lt c' i hi)
    chan_ch := fun c' i hi => by
      rcases upd_eq hi with ⟨rfl, e⟩ | ⟨_, hi⟩
      · cases e; exact upd_same ..
      · exact (upd_other _ _ _ _ (Nat.ne_of_lt (h.chan_lt c' i hi))).trans (h.chan_ch c' i hi)
    chan_mem := fun c' i hi => by
      rcases upd_eq hi with ⟨rfl, _⟩ | ⟨_, hi⟩
      · exact hc
      · exact h.chan_mem c' i hi
    down_chan := fun i hi => by
      rcases upd_eq hi with ⟨rfl, _⟩ | ⟨_, hi⟩
      · exact new
      · exact (old i (h.down_chan i hi)).2 }

theorem Inv.release {s : MPE} (h : Inv s) (n id : Nat) (hheld : s.notes n = .held id) :
    Inv (s.release n id) := by
  -- another object that owns a channel keeps it: only `id` sits on `id`'s channel
  have keep : ∀ i, i ≠ id → s.chans (s.objCh i) = some i → (s.release n id).chans (s.objCh i) = some i :=
    fun i hne hi => (upd_other _ _ _ _ fun e => by
      rw [e, h.held_chan n id hheld] at hi; exact hne (Option.some.inj hi).symm).trans hi
  exact {
    held_lt := fun n' i hi => h.held_lt n' i (upd_ne hi nofun).2
    held_chan := fun n' i hi =>
      have ⟨hn, hi⟩ := upd_ne hi nofun
      keep i (fun e => hn (by rw [← h.held_note n' i hi, e, h.held_note n id hheld])) (h.held_chan n' i hi)
    held_note := fun n' i hi => h.held_note n' i (upd_ne hi nofun).2
    chan_lt := fun c i hi => h.chan_lt c i (upd_ne hi nofun).2
    chan_ch := fun c i hi => h.chan_ch c i (upd_ne hi nofun).2
    chan_mem := fun c i hi => h.chan_mem c i (upd_ne hi nofun).2
    down_chan := fun i hi => keep i (upd_ne hi nofun).1 (h.down_chan i (upd_ne hi nofun).2) }

theorem data7_nat {n : Nat} (h : n < 128) : data7 (Num.int n).trunc = some n :=
  data7_some ⟨Int.natCast_nonneg n, Int.ofNat_le.2 (Nat.le_of_lt_succ h)⟩

theorem chan4_member {c : Nat} (h : c ∈ mpeChannels) : chan4 (Num.int c).trunc = some c :=
  chan4_some ⟨Int.natCast_nonneg c, Int.ofNat_le.2 (mem_mpeChannels.1 h).2⟩

theorem noteOn_some {s : MPE} {n v c : Nat} (hn : n < 128) (hv : v < 128) (hc : s.nextChannel = some c) :
    s.noteOn n v = { st := s.alloc n c, res := .note s.nextId c, wire := [.noteOn n v c] } := by
  rw [MPE.noteOn, hc]; dsimp only
  rw [resolve, data7_nat hn, data7_nat hv, chan4_member (nextChannel_some hc).1]

theorem noteOn_noChannel {s : MPE} {n v : Nat} : (s.noteOn n v).res = .noChannel ↔ s.nextChannel = none := by
  rw [MPE.noteOn]
  cases s.nextChannel with
  | none => exact ⟨fun _ => rfl, fun _ => rfl⟩
  | some c => dsimp only; cases resolve _ <;> exact ⟨nofun, nofun⟩

/-- every held key is a MIDI note number (true as long as note_on is only called with notes 0..127) -/
def DInv (s : MPE) : Prop := ∀ n i, s.notes n = .held i → n < 128

theorem noteOff_held {s : MPE} (hI : Inv s) (hD : DInv s) {n i : Nat} (hh : s.notes n = .held i) :
    s.noteOff n = { st := s.release n i, res := .released (s.objCh i), wire := [.noteOff n 64 (s.objCh i)] } := by
  rw [MPE.noteOff, hh]; dsimp only
  rw [resolve, data7_nat (hD n i hh), chan4_member (hI.chan_mem _ _ (hI.held_chan n i hh))]

/-- the call leaves the tables alone and puts nothing on the wire that starts or stops a note -/
def Quiet (s : MPE) (r : MpeStep) : Prop := r.st = s ∧ ∀ m ∈ r.wire, ∀ c cur, soundStep c cur m = cur

/-- the call releases key `n`, held by object `id` -/
def Releases (s : MPE) (n id : Nat) (r : MpeStep) : Prop :=
  s.notes n = .held id ∧ r.st = s.release n id ∧ r.wire = [.noteOff n 64 (s.objCh id)]

theorem quiet (s : MPE) (res : MpeRes) : Quiet s { st := s, res := res, wire := [] } :=
  ⟨rfl, fun _ h => absurd h List.not_mem_nil⟩

theorem noteOff_cases (s : MPE) (n : Nat) : Quiet s (s.noteOff n) ∨ ∃ id, Releases s n id (s.noteOff n) := by
  rw [MPE.noteOff]
  cases hn : s.notes n with
  | held id =>
    dsimp only
    cases hr : resolve _ with
    | none => exact .inl (quiet ..)
    | some m => exact .inr ⟨id, hn, rfl, by rw [(resolve_some hr).1]; rfl⟩
  | _ => exact .inl (quiet ..)

theorem objSend_quiet (s : MPE) (id : Nat) (r : Req) (hr : ∀ c cur, soundStep c cur r.msg = cur) :
    Quiet s (s.objSend id r) := by
  rw [MPE.objSend]
  by_cases hd : s.down id = true
  · rw [if_pos hd]
    cases h : resolve r with
    | none => exact quiet ..
    | some m =>
      refine ⟨rfl, fun m' hm' => ?_⟩
      cases List.mem_singleton.1 hm'
      rw [(resolve_some h).1]; exact hr
  · rw [if_neg hd]; exact quiet ..

/-- What a call does: it is quiet, or it allocates the lowest free channel for a new key, or it releases a
    held key. -/
theorem step_cases (s : MPE) (op : MpeOp) :
    Quiet s (s.step op)
    ∨ (∃ n v c, op = .on n v ∧ s.nextChannel = some c ∧ (s.step op).st = s.alloc n c
        ∧ (n < 128 → v < 128 → (s.step op).wire = [.noteOn n v c]))
    ∨ ∃ n id, Releases s n id (s.step op) := by
  cases op with
  | on n v =>
    cases hc : s.nextChannel with
    | none => exact .inl (by rw [MPE.step, MPE.noteOn, hc]; exact quiet ..)
    | some c =>
      refine .inr (.inl ⟨n, v, c, rfl, rfl, ?_, fun hn hv => congrArg MpeStep.wire (noteOn_some hn hv hc)⟩)
      rw [MPE.step, MPE.noteOn, hc]; dsimp only
      cases resolve _ <;> rfl
  | off n => exact (noteOff_cases s n).imp id fun h => .inr ⟨n, h⟩
  | objOff j =>
    rw [MPE.step]
    by_cases hd : s.down j = true
    · rw [if_pos hd]; exact (noteOff_cases s _).imp id fun h => .inr ⟨_, h⟩
    · rw [if_neg hd]; exact .inl (quiet ..)
  | objBend j p => exact .inl (objSend_quiet _ _ _ fun _ _ => rfl)
  | objControl j k v => exact .inl (objSend_quiet _ _ _ fun _ _ => rfl)
  | objAftertouch j v => exact .inl (objSend_quiet _ _ _ fun _ _ => rfl)

/-- a property of the tables that allocating the lowest free channel and releasing a held key keep is kept by
    every call -/
theorem step_keeps {P : MPE → Prop} {s : MPE} (op : MpeOp) (h : P s)
    (alloc : ∀ n v c, op = .on n v → s.nextChannel = some c → P (s.alloc n c))
    (release : ∀ n id, s.notes n = .held id → P (s.release n id)) : P (s.step op).st := by
  rcases step_cases s op with ⟨e, _⟩ | ⟨n, v, c, hop, hc, e, _⟩ | ⟨n, id, hh, e, _⟩ <;> rw [e]
  · exact h
  · exact alloc n v c hop hc
  · exact release n id hh

theorem Inv.step {s : MPE} (h : Inv s) (op : MpeOp) : Inv (s.step op).st :=
  step_keeps op h (fun n _ _ _ hc => h.alloc n hc) h.release

theorem Inv.run {s : MPE} (h : Inv s) (ops : List MpeOp) : Inv (s.run ops) := by
  induction ops generalizing s with
  | nil => exact h
  | cons op ops ih => exact ih (h.step op)

theorem DInv.init : DInv MPE.init := fun n i h => absurd h (init_notes n i)

theorem DInv.alloc {s : MPE} (h : DInv s) {n : Nat} (c : Nat) (hn : n < 128) : DInv (s.alloc n c) := by
  intro n' i hi
  rcases upd_eq hi with ⟨rfl, _⟩ | ⟨_, hi⟩
  · exact hn
  · exact h n' i hi

theorem DInv.release {s : MPE} (h : DInv s) (n id : Nat) : DInv (s.release n id) :=
  fun n' i hi => h n' i (upd_ne hi nofun).2

theorem DInv.step {s : MPE} (h : DInv s) (op : MpeOp) (hop : op.InDomain) : DInv (s.step op).st :=
  step_keeps op h (fun _ _ c e _ => h.alloc c (e ▸ hop).1) fun n id _ => h.release n id

theorem DInv.run {s : MPE} (h : DInv s) (ops : List MpeOp) (hops : ∀ op ∈ ops, op.InDomain) :
    DInv (s.run ops) := by
  induction ops generalizing s with
  | nil => exact h
  | cons op ops ih =>
    obtain ⟨hop, hops⟩ := List.forall_mem_cons.1 hops
    exact ih (h.step op hop) hops

/-- the receiver's view of every channel agrees with the allocator's table -/
def WInv (s : MPE) (w : List Msg) : Prop := ∀ c, soundingOn c w = (s.chans c).map s.objNote

theorem soundingOn_nil (c : Nat) : soundingOn c [] = none := rfl

theorem soundingOn_append (c : Nat) (w w' : List Msg) :
    soundingOn c (w ++ w') = soundingFrom c (soundingOn c w) w' := List.foldl_append

theorem WInv.init : WInv MPE.init [] := fun _ => rfl

theorem WInv.alloc {s : MPE} {w : List Msg} (hI : Inv s) (hW : WInv s w) (n v c : Nat) :
    WInv (s.alloc n c) (w ++ [.noteOn n v c]) := by
  intro c'
  rw [soundingOn_append, hW c']
  show (if c = c' then some n else _) = Option.map (upd s.objNote s.nextId n) (upd s.chans c (some s.nextId) c')
  by_cases hcc : c' = c
  · rw [hcc, if_pos rfl, upd_same]; exact congrArg some (upd_same ..).symm
  · rw [if_neg (Ne.symm hcc), upd_other _ _ _ _ hcc]
    cases hch : s.chans c' with
    | none => rfl
    | some i => exact congrArg some (upd_other _ _ _ _ (Nat.ne_of_lt (hI.chan_lt c' i hch))).symm

theorem WInv.release {s : MPE} {w : List Msg} (hW : WInv s w) (n id v : Nat) :
    WInv (s.release n id) (w ++ [.noteOff n v (s.objCh id)]) := by
  intro c'
  rw [soundingOn_append, hW c']
  show (if s.objCh id = c' then none else _) = Option.map s.objNote (upd s.chans (s.objCh id) none c')
  by_cases hcc : c' = s.objCh id
  · rw [hcc, if_pos rfl, upd_same]; rfl
  · rw [if_neg (Ne.symm hcc), upd_other _ _ _ _ hcc]

theorem WInv.silent {s : MPE} {w : List Msg} (hW : WInv s w) {w' : List Msg}
    (h : ∀ m ∈ w', ∀ c cur, soundStep c cur m = cur) : WInv s (w ++ w') := by
  intro c
  rw [soundingOn_append, hW c]
  generalize Option.map s.objNote (s.chans c) = cur
  induction w' with
  | nil => rfl
  | cons m w' ih =>
    show soundingFrom c (soundStep c cur m) w' = cur
    rw [h m List.mem_cons_self]
    exact ih fun m' hm' => h m' (List.mem_cons_of_mem _ hm')

theorem WInv.step {s : MPE} {w : List Msg} (hI : Inv s) (hW : WInv s w) (op : MpeOp)
    (hop : op.InDomain) : WInv (s.step op).st (w ++ (s.step op).wire) := by
  rcases step_cases s op with ⟨e, hw⟩ | ⟨n, v, c, rfl, _, e, hw⟩ | ⟨n, id, _, e, hw⟩
  · rw [e]; exact hW.silent hw
  · rw [e, hw hop.1 hop.2]; exact hW.alloc hI n v c
  · rw [e, hw]; exact hW.release n id 64

theorem WInv.run {s : MPE} {w : List Msg} (hI : Inv s) (hW : WInv s w) (ops : List MpeOp)
    (hops : ∀ op ∈ ops, op.InDomain) : WInv (s.run ops) (w ++ s.wire ops) := by
  induction ops generalizing s w with
  | nil => rw [MPE.wire, List.append_nil]; exact hW
  | cons op ops ih =>
    obtain ⟨hop, hops⟩ := List.forall_mem_cons.1 hops
    rw [MPE.wire, ← List.append_assoc]
    exact ih (hI.step op) (hW.step hI op hop) hops

/-- after any in-domain history a receiver that has only seen the wire knows the channel table: on every channel
    it hears the note of the object the allocator has there, or nothing. -/
theorem wire_view (ops : List MpeOp) (hd : ∀ op ∈ ops, op.InDomain) :
    WInv (MPE.init.run ops) (MPE.init.wire ops) :=
  WInv.init.run Inv.init ops hd

/-- every occupied channel belongs to a key that is held (fails once a held key is pressed again: the first
    `MPENote` then keeps its channel although `note_assignments` has forgotten it) -/
def RInv (s : MPE) : Prop := ∀ c i, s.chans c = some i → s.notes (s.objNote i) = .held i

theorem RInv.init : RInv MPE.init := fun _ _ h => nomatch h

theorem RInv.alloc {s : MPE} (hI : Inv s) (h : RInv s) (n c : Nat) (hn : (s.notes n).isHeld = false) :
    RInv (s.alloc n c) := by
  intro c' i hi
  rcases upd_eq hi with ⟨_, e⟩ | ⟨_, hi⟩
  · cases e
    rw [show (s.alloc n c).objNote s.nextId = n from upd_same ..]; exact upd_same ..
  · have hr := h c' i hi
    rw [show (s.alloc n c).objNote i = s.objNote i from upd_other _ _ _ _ (Nat.ne_of_lt (hI.chan_lt c' i hi))]
    refine (upd_other _ _ _ _ fun e => ?_).trans hr
    rw [e] at hr; rw [hr] at hn; cases hn

theorem RInv.release {s : MPE} (hI : Inv s) (h : RInv s) (n id : Nat) (hh : s.notes n = .held id) :
    RInv (s.release n id) := by
  intro c' i hi
  obtain ⟨hcc, hi⟩ := upd_ne hi nofun
  have hr := h c' i hi
  refine (upd_other _ _ _ _ fun (e : s.objNote i = n) => hcc ?_).trans hr
  rw [e, hh] at hr
  cases hr
  exact (hI.chan_ch c' _ hi).symm

theorem RInv.run {s : MPE} (hI : Inv s) (h : RInv s) (ops : List MpeOp) (hnr : noRetrigger s ops) :
    RInv (s.run ops) := by
  induction ops generalizing s with
  | nil => exact h
  | cons op ops ih =>
    exact ih (hI.step op) (step_keeps op h (fun n v c e _ => h.alloc hI n c (hnr.1 n v e)) (h.release hI)) hnr.2

theorem soundingCount_eq_occupied {s : MPE} {w : List Msg} (hW : WInv s w) : soundingCount w = s.occupied :=
  congrArg List.length (List.filter_congr fun c _ => by rw [hW c, Option.isSome_map])

theorem noteOn_of_occupied_lt {s : MPE} {n v : Nat} (hn : n < 128) (hv : v < 128) (h : s.occupied < 15) :
    ∃ c, s.nextChannel = some c
      ∧ s.step (.on n v) = { st := s.alloc n c, res := .note s.nextId c, wire := [.noteOn n v c] } := by
  cases hc : s.nextChannel with
  | none => exact absurd (nextChannel_eq_none.1 hc) (Nat.ne_of_lt h)
  | some c => exact ⟨c, rfl, noteOn_some hn hv hc⟩

/-- Counting the entries of a table with a property, over a duplicate-free list of keys, before and after one
    write: the written key is counted with its new value instead of its old one. -/
theorem count_upd {α : Type} (l : List Nat) (hnd : l.Nodup) (k : Nat) (hk : k ∈ l) (f : Nat → α) (v : α)
    (p : α → Bool) :
    (l.filter fun x => p (upd f k v x)).length + (p (f k)).toNat
      = (l.filter fun x => p (f x)).length + (p v).toNat := by
  induction l with
  | nil => cases hk
  | cons a l ih =>
    obtain ⟨hnot, hnd⟩ := List.nodup_cons.1 hnd
    rw [List.filter_cons, List.filter_cons]
    by_cases hak : a = k
    · subst hak
      have e : (l.filter fun x => p (upd f a v x)) = l.filter fun x => p (f x) :=
        List.filter_congr fun x hx => congrArg p (upd_other _ _ _ _ fun (e : x = a) => hnot (e ▸ hx))
      rw [upd_same, e]
      cases p v <;> cases p (f a) <;> rfl
    · have := ih hnd ((List.mem_cons.1 hk).resolve_left (Ne.symm hak))
      rw [upd_other _ _ _ _ hak]
      cases p (f a)
      · exact this
      · -- `a` is counted on both sides
        exact (Nat.succ_add ..).trans ((congrArg Nat.succ this).trans (Nat.succ_add ..).symm)

/-- without re-triggering, as many channels are occupied as keys are held -/
def CInv (s : MPE) : Prop := s.occupied = s.heldCount

theorem CInv.init : CInv MPE.init := by
  show MPE.init.occupied = MPE.init.heldCount
  decide +kernel

theorem CInv.alloc {s : MPE} (h : CInv s) {n c : Nat} (hn : n < 128) (hnh : (s.notes n).isHeld = false)
    (hc : s.nextChannel = some c) : CInv (s.alloc n c) := by
  obtain ⟨hc, hfree⟩ := nextChannel_some hc
  have c1 := count_upd _ mpeChannels_nodup c hc s.chans (some s.nextId) Option.isSome
  have c2 := count_upd _ List.nodup_range n (List.mem_range.2 hn) s.notes (.held s.nextId) Slot.isHeld
  rw [hfree] at c1
  rw [hnh] at c2
  exact Nat.add_right_cancel (c1.trans ((congrArg (· + 1) h).trans c2.symm))

theorem CInv.release {s : MPE} (hI : Inv s) (hD : DInv s) (h : CInv s) (n id : Nat) (hh : s.notes n = .held id) :
    CInv (s.release n id) := by
  have hch := hI.held_chan n id hh
  have c1 := count_upd _ mpeChannels_nodup _ (hI.chan_mem _ _ hch) s.chans none Option.isSome
  have c2 := count_upd _ List.nodup_range n (List.mem_range.2 (hD n id hh)) s.notes .released Slot.isHeld
  rw [hch] at c1
  rw [hh] at c2
  exact Nat.add_right_cancel (c1.trans (h.trans c2.symm))

theorem CInv.run {s : MPE} (hI : Inv s) (hD : DInv s) (h : CInv s) (ops : List MpeOp)
    (hd : ∀ op ∈ ops, op.InDomain) (hnr : noRetrigger s ops) : CInv (s.run ops) := by
  induction ops generalizing s with
  | nil => exact h
  | cons op ops ih =>
    obtain ⟨hop, hd⟩ := List.forall_mem_cons.1 hd
    exact ih (hI.step op) (hD.step op hop)
      (step_keeps op h (fun n v _ e hc => h.alloc (e ▸ hop).1 (hnr.1 n v e) hc) (h.release hI hD)) hd hnr.2

theorem nextChannel_congr {s t : MPE} (h : s.chans = t.chans) : s.nextChannel = t.nextChannel := by
  unfold MPE.nextChannel; rw [h]

/-- press a key and release it again: both messages go out on the lowest free channel, which is free again afterwards -/
theorem press_release {s : MPE} (hI : Inv s) (hD : DInv s) {c n v : Nat} (hc : s.nextChannel = some c)
    (hn : n < 128) (hv : v < 128) :
    (s.step (.on n v)).wire = [.noteOn n v c]
    ∧ ((s.step (.on n v)).st.step (.off n)).wire = [.noteOff n 64 c]
    ∧ ((s.step (.on n v)).st.step (.off n)).st.chans = s.chans := by
  have hfree := (nextChannel_some hc).2
  have held : (s.alloc n c).notes n = .held s.nextId := upd_same ..
  have hch : (s.alloc n c).objCh s.nextId = c := upd_same ..
  rw [MPE.step, noteOn_some hn hv hc, MPE.step,
    noteOff_held (hI.alloc n hc) (hD.alloc c hn) held, hch]
  refine ⟨rfl, rfl, funext fun x => ?_⟩
  show upd (upd s.chans c (some s.nextId)) ((s.alloc n c).objCh s.nextId) none x = s.chans x
  rw [hch]
  by_cases hx : x = c
  · rw [hx, upd_same, hfree]
  · rw [upd_other _ _ _ _ hx, upd_other _ _ _ _ hx]

/-- notes played one after the other from a state whose lowest free channel is `c` all go out on `c`, and the
    channel table ends as it began: by `press_release`, one note at a time. -/
theorem successive_wire {s : MPE} (hI : Inv s) (hD : DInv s) {c : Nat} (hc : s.nextChannel = some c)
    (ns : List (Nat × Nat)) (hns : ∀ p ∈ ns, p.1 < 128 ∧ p.2 < 128) :
    s.wire (playSuccessively ns) = successiveWire c ns ∧ (s.run (playSuccessively ns)).chans = s.chans := by
  induction ns generalizing s with
  | nil => exact ⟨rfl, rfl⟩
  | cons p rest ih =>
    obtain ⟨hp, hns⟩ := List.forall_mem_cons.1 hns
    obtain ⟨w1, w2, hch⟩ := press_release hI hD hc hp.1 hp.2
    obtain ⟨i1, i2⟩ := ih ((hI.step _).step _) ((hD.step (.on p.1 p.2) hp).step (.off p.1) trivial)
      ((nextChannel_congr hch).trans hc) hns
    constructor
    · rw [playSuccessively, MPE.wire, MPE.wire, w1, w2, i1]; rfl
    · rw [playSuccessively, MPE.run, MPE.run, i2, hch]

end IsobarV.IO
