/-
Notions in which theorems about pattern classes are stated: the outcomes of a sub-pattern under an arbitrary
semantics `rec` (`recOuts`, `recAfter`), the outcomes of a class step function under `rec` (`clsOuts`), and what a
step may do to the pattern-valued attributes (`Stepped`, `SteppedAt`), with the equations of `stepKid`.
-/
import IsobarV.Pat.Run

namespace IsobarV.Pat

/-- Outcomes of `n` successive `rec` steps of a sub-pattern. -/
def recOuts (rec : Rec) : Nat → Pat → List Out
  | 0, _ => []
  | n + 1, p => (rec p).out :: recOuts rec n (rec p).p

/-- The sub-pattern after `n` `rec` steps. -/
def recAfter (rec : Rec) : Nat → Pat → Pat
  | 0, p => p
  | n + 1, p => recAfter rec n (rec p).p

/-- Outcomes of `n` successive steps of a class's step function (sub-patterns taken through `rec`). -/
def clsOuts (step : ClsStep) (rec : Rec) : Nat → List Pat → St → List Out
  | 0, _, _ => []
  | n + 1, kids, st => (step rec kids st).out :: clsOuts step rec n (step rec kids st).kids (step rec kids st).st

/-- `ks` is `kids` after some of them were stepped through `rec`: the only way a class's `__next__`
    touches its pattern-valued attributes (PReset and PSequenceAction also reset one, `resetKid`).  One such fact per class serves both reset-correctness
    (`ResetOK.lean`) and the invariant half of stickiness (`Sticky.lean`). -/
inductive Stepped (rec : Rec) (kids : List Pat) : List Pat → Prop where
  | refl : Stepped rec kids kids
  | kid {ks : List Pat} (i : Nat) : Stepped rec kids ks → Stepped rec kids (stepKid rec ks i).2

attribute [simp] Stepped.refl

theorem Stepped.trans {rec : Rec} {a b c : List Pat} (h1 : Stepped rec a b) (h2 : Stepped rec b c) : Stepped rec a c := by
  induction h2 with
  | refl => exact h1
  | kid i _ ih => exact .kid i ih

/-- `simp` form of the constructor: closes `Stepped rec kids (stepKid rec (stepKid rec kids i).2 j).2` and the like. -/
@[simp] theorem Stepped.step {rec : Rec} {kids ks : List Pat} (i : Nat) (h : Stepped rec kids ks) :
    Stepped rec kids (stepKid rec ks i).2 := .kid i h

/-- What every `rec` step keeps, every sequence of steps keeps. -/
theorem Stepped.forall_mem {rec : Rec} {P : Pat → Prop} (hP : ∀ k, P k → P (rec k).p) {kids ks : List Pat}
    (h : Stepped rec kids ks) (hk : ∀ k ∈ kids, P k) : ∀ k ∈ ks, P k := by
  induction h with
  | refl => exact hk
  | @kid ks i _ ih =>
    unfold stepKid
    cases hi : ks[i]? with
    | none => exact ih
    | some k =>
      intro x hx
      rcases List.mem_or_eq_of_mem_set hx with hx | rfl
      · exact ih x hx
      · exact hP k (ih k (List.mem_of_getElem? hi))

theorem stepKid_get (rec : Rec) (kids : List Pat) (i : Nat) (k : Pat) (h : kids[i]? = some k) :
    stepKid rec kids i = ((rec k).out, kids.set i (rec k).p) := by
  simp [stepKid, h]

/-- With `rec := stepF fuel` the class-level outcomes are the outcomes of the node itself. -/
theorem outs_eq_clsOuts (fuel n : Nat) (c : Cls) (kids : List Pat) (st : St) :
    outs (fuel + 1) n (.node c kids st) = clsOuts (clsStep c) (stepF fuel) n kids st := by
  induction n generalizing kids st with
  | zero => rfl
  | succ n ih => simp only [outs, clsOuts, stepF]; rw [ih]

theorem recOuts_stepF (fuel n : Nat) (p : Pat) : recOuts (stepF fuel) n p = outs fuel n p := by
  induction n generalizing p with
  | zero => rfl
  | succ n ih => simp only [recOuts, outs]; rw [ih]

/-! ### Stepping kids -/

theorem set_same {α : Type} (l : List α) (i : Nat) (x : α) (h : l[i]? = some x) : l.set i x = l := by
  induction l generalizing i with
  | nil => rfl
  | cons y ys ih =>
    cases i with
    | zero => simp at h; simp [h]
    | succ j => simp at h; simp [ih j h]

theorem stepKid_zero (rec : Rec) (a : Pat) (ks : List Pat) : stepKid rec (a :: ks) 0 = ((rec a).out, (rec a).p :: ks) := rfl

theorem stepKid_succ (rec : Rec) (a : Pat) (ks : List Pat) (i : Nat) :
    stepKid rec (a :: ks) (i + 1) = ((stepKid rec ks i).1, a :: (stepKid rec ks i).2) := by
  simp only [stepKid, List.getElem?_cons_succ]
  cases ks[i]? <;> rfl

theorem stepKid_one (rec : Rec) (a k : Pat) (tail : List Pat) :
    stepKid rec (a :: k :: tail) 1 = ((rec k).out, a :: (rec k).p :: tail) := rfl

theorem stepKid_length (rec : Rec) (kids : List Pat) (i : Nat) : (stepKid rec kids i).2.length = kids.length := by
  unfold stepKid
  cases kids[i]? <;> simp

theorem stepKid_getElem? (rec : Rec) (kids : List Pat) (i j : Nat) :
    (stepKid rec kids i).2[j]? = if j = i then (kids[j]?).map (fun k => (rec k).p) else kids[j]? := by
  unfold stepKid
  by_cases hji : j = i
  · subst hji
    cases h : kids[j]? with
    | none => simp [h]
    | some k => simp [(List.getElem?_eq_some_iff.mp h).1]
  · cases kids[i]? with
    | none => simp [hji]
    | some k => simp [hji, List.getElem?_set_ne (Ne.symm hji)]

theorem stepKid_ne (rec : Rec) (kids : List Pat) {i j : Nat} (hij : j ≠ i) : (stepKid rec kids j).2[i]? = kids[i]? := by
  rw [stepKid_getElem?, if_neg (Ne.symm hij)]

/-- Reading a kid that is a fixed point of `rec` (a constant, say) changes nothing. -/
theorem stepKid_fixed {rec : Rec} {kids : List Pat} {i : Nat} {k : Pat} (hk : kids[i]? = some k) (hf : (rec k).p = k) :
    stepKid rec kids i = ((rec k).out, kids) := by
  rw [stepKid_get rec kids i k hk, hf, set_same _ _ _ hk]

theorem Stepped.getElem?_fixed {rec : Rec} {kids ks : List Pat} (h : Stepped rec kids ks) {i : Nat} {k : Pat}
    (hk : kids[i]? = some k) (hf : (rec k).p = k) : ks[i]? = some k := by
  induction h with
  | refl => exact hk
  | @kid ks j _ ih =>
    by_cases hj : j = i
    · rw [hj, stepKid_fixed ih hf]; exact ih
    · exact (stepKid_ne rec ks hj).trans ih

/-- `ks` is `kids` after some steps of kid `i` alone: how a class that reads ahead touches its input. -/
inductive SteppedAt (rec : Rec) (i : Nat) (kids : List Pat) : List Pat → Prop where
  | refl : SteppedAt rec i kids kids
  | kid {ks : List Pat} : SteppedAt rec i kids ks → SteppedAt rec i kids (stepKid rec ks i).2

attribute [simp] SteppedAt.refl

theorem SteppedAt.trans {rec : Rec} {i : Nat} {a b c : List Pat} (h1 : SteppedAt rec i a b) (h2 : SteppedAt rec i b c) :
    SteppedAt rec i a c := by
  induction h2 with
  | refl => exact h1
  | kid _ ih => exact .kid ih

theorem SteppedAt.stepped {rec : Rec} {i : Nat} {kids ks : List Pat} (h : SteppedAt rec i kids ks) : Stepped rec kids ks := by
  induction h with
  | refl => exact .refl
  | kid _ ih => exact .kid i ih

/-- Stepping the head keeps the tail. -/
theorem SteppedAt.tail {rec : Rec} {a : Pat} {rest ks : List Pat} (h : SteppedAt rec 0 (a :: rest) ks) :
    ∃ a', ks = a' :: rest := by
  induction h with
  | refl => exact ⟨a, rfl⟩
  | kid _ ih => obtain ⟨a', rfl⟩ := ih; exact ⟨(rec a').p, rfl⟩

theorem Stepped.of_eq {rec : Rec} {kids ks : List Pat} (h : ks = kids) : Stepped rec kids ks := h ▸ .refl

theorem Stepped.head {rec : Rec} (k : Pat) (ks : List Pat) : Stepped rec (k :: ks) ((rec k).p :: ks) :=
  Stepped.refl.step 0

theorem Stepped.cons {rec : Rec} (k : Pat) {ks ks' : List Pat} (h : Stepped rec ks ks') :
    Stepped rec (k :: ks) (k :: ks') := by
  induction h with
  | refl => exact .refl
  | @kid ks' i _ ih =>
    have e : (stepKid rec (k :: ks') (i + 1)).2 = k :: (stepKid rec ks' i).2 := by
      simp only [stepKid, List.getElem?_cons_succ]
      cases ks'[i]? <;> rfl
    exact e ▸ ih.step (i + 1)

/-! ### The core classes only step their kids -/

theorem stepUn_stepped (f : Val → Out) (rec : Rec) (kids : List Pat) (st : St) :
    Stepped rec kids (stepUn f rec kids st).kids ∧ (stepUn f rec kids st).st = st := by
  simp only [stepUn]; split <;> simp

theorem stepBin_stepped (f : Val → Val → Out) (rec : Rec) (kids : List Pat) (st : St) :
    Stepped rec kids (stepBin f rec kids st).kids ∧ (stepBin f rec kids st).st = st := by
  simp only [stepBin]
  split
  · split <;> simp
  · simp

theorem stepSeq_stepped (rec : Rec) (kids : List Pat) (st : St) :
    Stepped rec kids (stepSeq rec kids st).kids ∧ resetSeq (stepSeq rec kids st).st = resetSeq st := by
  simp only [stepSeq]
  split
  · simp
  · split
    · split <;> simp [resetSeq]
    · simp

theorem concatLoop_stepped (rec : Rec) (fuel : Nat) (kids : List Pat) (pos : Nat) :
    Stepped rec kids (concatLoop rec fuel kids pos).2.1 := by
  induction fuel generalizing kids pos with
  | zero => exact .refl
  | succ n ih =>
    simp only [concatLoop]
    cases h : kids[pos]? with
    | none => exact .refl
    | some k =>
      have hs : Stepped rec kids (kids.set pos (rec k).p) := by
        simpa [stepKid, h] using (Stepped.refl (rec := rec) (kids := kids)).step pos
      simp only []
      split
      · split
        · exact hs.trans (ih _ _)
        · exact hs
      · exact hs

theorem stepArrayIndex_stepped (rec : Rec) (kids : List Pat) (st : St) :
    Stepped rec kids (stepArrayIndex rec kids st).kids ∧ (stepArrayIndex rec kids st).st = st := by
  simp only [stepArrayIndex]
  split
  · simp
  · split
    · split <;> simp
    · simp
    · simp
  · simp

end IsobarV.Pat
