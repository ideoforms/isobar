/-
Generic machinery for C04 (`reset()` rewinds any pattern).

A class `c` is *reset-correct* (`ClsResetOK c`) when, for ANY semantics `rec` of its sub-patterns that
(a) keeps sub-patterns inside an invariant `P` and (b) never changes what `reset` makes of them, one
step of the class keeps its kids inside `P`, does not change what `reset` makes of the kids, and does
not change what the class's own reset makes of its state.  `reset_stepF` / `reset_rewinds` lift this to whole
pattern trees of reset-correct classes, any nesting depth, any number of steps.
-/
import IsobarV.Pat.Lemmas

namespace IsobarV.Pat

/-- Every node of the tree belongs to a class in `S`. -/
inductive AllCls (S : Cls → Prop) : Pat → Prop where
  | node {c : Cls} {kids : List Pat} {st : St} :
      S c → (∀ k ∈ kids, AllCls S k) → AllCls S (.node c kids st)

theorem allCls_node {S : Cls → Prop} {c : Cls} {kids : List Pat} {st : St} :
    AllCls S (.node c kids st) ↔ S c ∧ ∀ k ∈ kids, AllCls S k :=
  ⟨fun h => by cases h with | node h1 h2 => exact ⟨h1, h2⟩, fun h => .node h.1 h.2⟩

/-- Each class's own reset writes constants and copies of constructor arguments only (by cases over the classes). -/
theorem clsReset_idem (c : Cls) (st : St) : clsReset c (clsReset c st) = clsReset c st := by
  cases st; cases c <;> eq_refl

/-- `reset()` twice is `reset()` once, for every pattern. -/
theorem reset_idem (p : Pat) : reset (reset p) = reset p :=
  Pat.rec (motive_1 := fun p => reset (reset p) = reset p) (motive_2 := fun ks => ∀ k ∈ ks, reset (reset k) = reset k)
    (fun c kids st ih => by
      rw [reset_node, reset_node, clsReset_idem, List.map_map]
      exact congrArg (Pat.node c · _) (List.map_congr_left ih))
    (fun _ h => nomatch h) (fun _ _ ihk ihks => List.forall_mem_cons.mpr ⟨ihk, ihks⟩) p

/-- A semantics of sub-patterns that respects `P` and is invisible to `reset`. -/
def RecOK (P : Pat → Prop) (rec : Rec) : Prop := ∀ k, P k → P (rec k).p ∧ reset (rec k).p = reset k

def ClsResetOK (c : Cls) : Prop :=
  ∀ (P : Pat → Prop) (rec : Rec) (kids : List Pat) (st : St), RecOK P rec → (∀ k ∈ kids, P k) →
    (∀ k ∈ (clsStep c rec kids st).kids, P k) ∧
    (clsStep c rec kids st).kids.map reset = kids.map reset ∧
    clsReset c (clsStep c rec kids st).st = clsReset c st

/-- Stepped kids stay inside `P` and invisible to `reset`. -/
theorem Stepped.resetOK {P : Pat → Prop} {rec : Rec} (hrec : RecOK P rec) {kids ks : List Pat}
    (h : Stepped rec kids ks) (hk : ∀ k ∈ kids, P k) : (∀ k ∈ ks, P k) ∧ ks.map reset = kids.map reset := by
  refine ⟨h.forall_mem (fun k hk => (hrec k hk).1) hk, ?_⟩
  induction h with
  | refl => rfl
  | @kid ks i h ih =>
    rw [← ih]
    unfold stepKid
    cases hi : ks[i]? with
    | none => rfl
    | some k =>
      have hPk := h.forall_mem (fun k hk => (hrec k hk).1) hk k (List.mem_of_getElem? hi)
      simp only [List.map_set, (hrec k hPk).2]
      exact set_same _ _ _ (by simp [hi])

theorem stepKid_ok {P : Pat → Prop} {rec : Rec} (hrec : RecOK P rec) (kids : List Pat) (i : Nat)
    (hk : ∀ k ∈ kids, P k) :
    (∀ k ∈ (stepKid rec kids i).2, P k) ∧ (stepKid rec kids i).2.map reset = kids.map reset :=
  (Stepped.refl.step i).resetOK hrec hk

/-- A class is reset-correct when a step only steps its kids and writes only registers that its reset overwrites. -/
theorem ClsResetOK.of_stepped {c : Cls}
    (h : ∀ rec kids st, Stepped rec kids (clsStep c rec kids st).kids ∧
      clsReset c (clsStep c rec kids st).st = clsReset c st) : ClsResetOK c := by
  intro P rec kids st hrec hk
  obtain ⟨h1, h2⟩ := (h rec kids st).1.resetOK hrec hk
  exact ⟨h1, h2, (h rec kids st).2⟩

/-- The same for a class given by its step function and its own-state reset (`clsReset` also rewinds the draw tape). -/
theorem ClsResetOK.of_step {c : Cls} {step : ClsStep} {r : St → St}
    (h : ∀ rec kids st, Stepped rec kids (step rec kids st).kids ∧ r (step rec kids st).st = r st)
    (hs : clsStep c = step := by rfl) (hr : ∀ s, clsReset c s = { r s with cur := 0 } := by intros; rfl) : ClsResetOK c :=
  .of_stepped fun rec kids st => by rw [hs, hr, hr, (h rec kids st).2]; exact ⟨(h rec kids st).1, rfl⟩

/-- **`reset` after any number of steps = `reset` of the original**, for every tree of reset-correct
    classes: stepping never changes what `reset()` rewinds to. -/
theorem reset_stepF {S : Cls → Prop} (hS : ∀ c, S c → ClsResetOK c) (fuel : Nat) (p : Pat) (hp : AllCls S p) :
    AllCls S (stepF fuel p).p ∧ reset (stepF fuel p).p = reset p := by
  induction fuel generalizing p with
  | zero => exact ⟨hp, rfl⟩
  | succ n ih =>
    obtain ⟨hc, hk⟩ := hp
    obtain ⟨h1, h2, h3⟩ := hS _ hc (AllCls S) (stepF n) _ _ ih hk
    exact ⟨.node hc h1, by simp only [stepF, reset_node, h2, h3]⟩

/-- What one `next()` keeps of a pattern and of its `reset`, any number of them keeps. -/
theorem after_of_stepF {T : Pat → Prop} {fuel : Nat}
    (h : ∀ p, T p → T (stepF fuel p).p ∧ reset (stepF fuel p).p = reset p) (n : Nat) (p : Pat) (hp : T p) :
    T (after fuel n p) ∧ reset (after fuel n p) = reset p := by
  induction n generalizing p with
  | zero => exact ⟨hp, rfl⟩
  | succ n ih => exact (ih _ (h p hp).1).imp_right (·.trans (h p hp).2)

theorem reset_after {S : Cls → Prop} (hS : ∀ c, S c → ClsResetOK c) (fuel n : Nat) (p : Pat) (hp : AllCls S p) :
    AllCls S (after fuel n p) ∧ reset (after fuel n p) = reset p :=
  after_of_stepF (reset_stepF hS fuel) n p hp

/-- A pattern is *initial* when `reset` leaves it unchanged (every counter at its constructor value). -/
def IsInit (p : Pat) : Prop := reset p = p

/-- **C04, main form.**  For a freshly constructed pattern `p0` built from reset-correct classes:
    after ANY number `k` of `next()` calls — none, some, all the way to exhaustion and beyond —
    `reset()` gives back exactly `p0`, hence exactly the sequence a new identical instance produces;
    the same holds for every pattern nested inside it (they are reset to their own initial states,
    because `reset p0 = p0` is an equality of whole trees). -/
theorem reset_rewinds {S : Cls → Prop} (hS : ∀ c, S c → ClsResetOK c) (fuel k : Nat) (p0 : Pat)
    (hp : AllCls S p0) (h0 : IsInit p0) : reset (after fuel k p0) = p0 := by
  rw [(reset_after hS fuel k p0 hp).2]; exact h0

/-- Repeated resets are harmless: a second `reset()` still yields the initial pattern. -/
theorem reset_twice {S : Cls → Prop} (hS : ∀ c, S c → ClsResetOK c) (fuel k : Nat) (p0 : Pat)
    (hp : AllCls S p0) (h0 : IsInit p0) : reset (reset (after fuel k p0)) = p0 := by
  rw [reset_rewinds hS fuel k p0 hp h0]; exact h0

theorem nextn_is_after (fuel n : Nat) (p : Pat) : ∃ m, (nextn fuel n p).p = after fuel m p := by
  induction n generalizing p with
  | zero => exact ⟨0, rfl⟩
  | succ n ih =>
    simp only [nextn]
    split
    · obtain ⟨m, hm⟩ := ih (stepF fuel p).p
      exact ⟨m + 1, by simpa [after] using hm⟩
    · exact ⟨1, rfl⟩
    · exact ⟨1, rfl⟩

/-- `all()` leaves the pattern rewound: after `Pattern.all(max)` (no exception) the pattern is `p0` again. -/
theorem all_rewinds {S : Cls → Prop} (hS : ∀ c, S c → ClsResetOK c) (fuel maximum : Nat) (p0 : Pat)
    (hp : AllCls S p0) (h0 : IsInit p0) (hok : (nextn fuel maximum p0).err = Option.none) :
    (all fuel maximum p0).p = p0 := by
  obtain ⟨m, hm⟩ := nextn_is_after fuel maximum p0
  simp only [all, hok]
  rw [hm]; exact reset_rewinds hS fuel m p0 hp h0

end IsobarV.Pat
