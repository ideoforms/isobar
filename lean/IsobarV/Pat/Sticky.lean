/-
Generic machinery for C09: stickiness of StopIteration, and the helper methods.

A class `c` is *sticky* (`ClsSticky c`) when, for ANY semantics `rec` of its sub-patterns that keeps
them inside an invariant `P` and is itself sticky on `P`, after a step that ends in StopIteration no later step
yields a value.  `sticky_tree` is the induction that lifts this to whole pattern trees (`sticky_stepF`; the group
files have variants with fixed length parameters and with state invariants).  The second half of the file holds the
tools of the class-wise proofs: where a StopIteration comes from (`StoppedAt`, `LastStep`), dead kids (`C09.DeadAt`),
outcomes under an invariant (`C09.clsOuts_noVal`), and ways to obtain `ClsSticky` (`ClsSticky.of_absorbing`, …).
-/
import IsobarV.Pat.ResetOK

namespace IsobarV.Pat

/-- Not a value: StopIteration or an exception. -/
def NoVal (o : Out) : Prop := ∀ v, o ≠ .val v

/-- A sub-pattern is *dead* under `rec`: no later `next()` ever yields a value again. -/
def DeadUnder (rec : Rec) (p : Pat) : Prop := ∀ n, ∀ o ∈ recOuts rec n p, NoVal o

@[simp] theorem noVal_stop : NoVal .stop := fun _ h => nomatch h
@[simp] theorem noVal_err (e : Err) : NoVal (.err e) := fun _ h => nomatch h

theorem NoVal.of_stop {o : Out} (h : o = .stop) : NoVal o := h ▸ noVal_stop
theorem NoVal.of_err {o : Out} {e : Err} (h : o = .err e) : NoVal o := h ▸ noVal_err e

theorem DeadUnder.step {rec : Rec} {p : Pat} (h : DeadUnder rec p) : NoVal (rec p).out ∧ DeadUnder rec (rec p).p := by
  constructor
  · exact h 1 _ (by simp [recOuts])
  · intro n o ho
    exact h (n + 1) o (by simp [recOuts, ho])

/-- A semantics of sub-patterns that respects `P` and under which a StopIteration is final. -/
def RecSticky (P : Pat → Prop) (rec : Rec) : Prop :=
  ∀ k, P k → P (rec k).p ∧ ((rec k).out = .stop → DeadUnder rec (rec k).p)

theorem Stepped.sticky {P : Pat → Prop} {rec : Rec} (hrec : RecSticky P rec) {kids ks : List Pat}
    (h : Stepped rec kids ks) (hk : ∀ k ∈ kids, P k) : ∀ k ∈ ks, P k :=
  h.forall_mem (fun k hk => (hrec k hk).1) hk

/-- A class is sticky when, sub-patterns being sticky, a step that ends in StopIteration leaves the
    object in a state from which no later step yields a value. -/
def ClsSticky (c : Cls) : Prop :=
  ∀ (P : Pat → Prop) (rec : Rec) (kids : List Pat) (st : St), RecSticky P rec → (∀ k ∈ kids, P k) →
    (∀ k ∈ (clsStep c rec kids st).kids, P k) ∧
    ((clsStep c rec kids st).out = .stop →
      ∀ n, ∀ o ∈ clsOuts (clsStep c) rec n (clsStep c rec kids st).kids (clsStep c rec kids st).st, NoVal o)

/-- A class that only steps its kids and never raises StopIteration itself is (vacuously) sticky. -/
theorem ClsSticky.of_never_stops {c : Cls}
    (h : ∀ rec kids st, Stepped rec kids (clsStep c rec kids st).kids ∧ (clsStep c rec kids st).out ≠ .stop) :
    ClsSticky c :=
  fun _ rec kids st hrec hk => ⟨(h rec kids st).1.sticky hrec hk, fun hs => absurd hs (h rec kids st).2⟩

theorem Out.val_or_noVal (o : Out) : (∃ v, o = .val v) ∨ NoVal o := by
  cases o with
  | val v => exact .inl ⟨v, rfl⟩
  | stop => exact .inr nofun
  | err e => exact .inr nofun

theorem NoVal.of_ne {o : Out} (h1 : ∀ x, o ≠ .val (.a x)) (h2 : ∀ xs, o ≠ .val (.tup xs)) : NoVal o
  | .a x => h1 x
  | .tup xs => h2 xs

/-- The induction behind every lifting of class-wise stickiness to whole trees.  `T` is any predicate on patterns
    that one step of a node's class keeps — ending every StopIteration for good — whenever the semantics `stepF m`
    of the sub-patterns is sticky on `T`. -/
theorem sticky_tree {T : Pat → Prop}
    (hstep : ∀ (m : Nat) (c : Cls) (kids : List Pat) (st : St), RecSticky T (stepF m) → T (.node c kids st) →
      T (.node c (clsStep c (stepF m) kids st).kids (clsStep c (stepF m) kids st).st) ∧
      ((clsStep c (stepF m) kids st).out = .stop →
        ∀ n, ∀ o ∈ clsOuts (clsStep c) (stepF m) n (clsStep c (stepF m) kids st).kids (clsStep c (stepF m) kids st).st,
          NoVal o))
    (fuel : Nat) (p : Pat) (hp : T p) :
    T (stepF fuel p).p ∧ ((stepF fuel p).out = .stop → ∀ n, ∀ o ∈ outs fuel n (stepF fuel p).p, NoVal o) := by
  induction fuel generalizing p with
  | zero => exact ⟨hp, fun h => nomatch h⟩
  | succ m ih =>
    obtain ⟨c, kids, st⟩ := p
    have hrec : RecSticky T (stepF m) := fun k hk =>
      ⟨(ih k hk).1, fun hs n o ho => (ih k hk).2 hs n o (recOuts_stepF m n _ ▸ ho)⟩
    obtain ⟨h1, h2⟩ := hstep m c kids st hrec hp
    exact ⟨h1, fun h n o ho => h2 h n o (outs_eq_clsOuts m n _ _ _ ▸ ho)⟩

/-- **Once a pattern has raised StopIteration, no later `next()` ever yields a value again** (it
    raises StopIteration again — or, for arguments outside a class's domain, whatever exception an
    operand raises) — for every tree of sticky classes, any depth, any number of later calls. -/
theorem sticky_stepF {S : Cls → Prop} (hS : ∀ c, S c → ClsSticky c) (fuel : Nat) (p : Pat) (hp : AllCls S p) :
    AllCls S (stepF fuel p).p ∧
    ((stepF fuel p).out = .stop → ∀ n, ∀ o ∈ outs fuel n (stepF fuel p).p, NoVal o) :=
  sticky_tree (fun m c kids st hrec hp => by
    obtain ⟨hc, hk⟩ := allCls_node.1 hp
    exact (hS c hc _ (stepF m) kids st hrec hk).imp_left (.node hc)) fuel p hp

/-! ### Helper methods -/

/-- The values before the first outcome that is not a value. -/
def valuesPrefix : List Out → List Val
  | .val v :: os => v :: valuesPrefix os
  | _ => []

/-- **`nextn(n)` returns exactly the values the next `n` calls of `next()` yield before the pattern
    ends (or raises)**: the next `min(n, remaining)` values. -/
theorem nextn_vals (fuel n : Nat) (p : Pat) : (nextn fuel n p).vals = valuesPrefix (outs fuel n p) := by
  induction n generalizing p with
  | zero => rfl
  | succ n ih =>
    simp only [nextn, outs]
    cases h : (stepF fuel p).out with
    | val v => simp [valuesPrefix, ih]
    | stop => simp [valuesPrefix]
    | err e => simp [valuesPrefix]

/-- `all(max)` returns the same values as `nextn(max)`; `len()` is their number. -/
theorem all_vals (fuel m : Nat) (p : Pat) : (all fuel m p).vals = valuesPrefix (outs fuel m p) := by
  simp only [all]
  split <;> exact nextn_vals fuel m p

theorem len_spec (fuel m : Nat) (p : Pat) (hok : (nextn fuel m p).err = Option.none) :
    (len fuel m p).1 = some (valuesPrefix (outs fuel m p)).length := by
  simp [len, all, hok, nextn_vals]

/-- `nextn` raises only if an exception is met before `n` values or the end. -/
theorem nextn_no_error_of_stop (fuel n : Nat) (p : Pat) (h : ∀ o ∈ outs fuel n p, ∀ e, o ≠ .err e) :
    (nextn fuel n p).err = Option.none := by
  induction n generalizing p with
  | zero => rfl
  | succ n ih =>
    simp only [nextn]
    cases hs : (stepF fuel p).out with
    | val v =>
      simp only []
      apply ih
      intro o ho e
      exact h o (by simp [outs, ho]) e
    | stop => rfl
    | err e => exact absurd rfl (h (.err e) (by simp [outs, hs]) e)

/-- **A copy continues with exactly the output the original would have produced**: `copy()` is the
    identity on the (immutable) model value, so both continue identically and cannot affect one
    another.  (Aliasing in the real objects is decided by the interleaving oracle of the harness.) -/
theorem copy_continues (fuel n : Nat) (p : Pat) : outs fuel n (id p) = outs fuel n p := rfl

/-! ### Where a StopIteration comes from -/

variable {rec : Rec} {kids : List Pat} {st : St}

/-- `ks` is `kids` after some steps, the last of which — of kid `i` — ended in StopIteration: the way a
    StopIteration of a sub-pattern becomes one of the class. -/
def StoppedAt (rec : Rec) (kids ks : List Pat) (i : Nat) : Prop :=
  ∃ k0, Stepped rec kids k0 ∧ (stepKid rec k0 i).1 = .stop ∧ ks = (stepKid rec k0 i).2

theorem StoppedAt.of_step {i : Nat} (h : (stepKid rec kids i).1 = .stop) : StoppedAt rec kids (stepKid rec kids i).2 i :=
  ⟨kids, .refl, h, rfl⟩

theorem StoppedAt.after {k1 ks : List Pat} {i : Nat} (hs : Stepped rec kids k1) (h : StoppedAt rec k1 ks i) :
    StoppedAt rec kids ks i :=
  h.imp fun _ h => ⟨hs.trans h.1, h.2⟩

/-- `r` is what a loop over kid `i` returns: outcome and kids of its last step, or out of fuel. -/
def LastStep (rec : Rec) (kids : List Pat) (i : Nat) (r : Out × List Pat) : Prop :=
  ∃ ks, Stepped rec kids ks ∧ (r = (.err .diverge, ks) ∨ r = stepKid rec ks i)

variable {i : Nat} {r : Out × List Pat}

theorem LastStep.stepped (h : LastStep rec kids i r) : Stepped rec kids r.2 := by
  obtain ⟨ks, hs, rfl | rfl⟩ := h
  · exact hs
  · exact hs.step i

theorem LastStep.stopped (h : LastStep rec kids i r) (hs : r.1 = .stop) : StoppedAt rec kids r.2 i := by
  obtain ⟨ks, hst, rfl | rfl⟩ := h
  · cases hs
  · exact ⟨ks, hst, hs, rfl⟩

theorem LastStep.after (h : LastStep rec (stepKid rec kids i).2 i r) : LastStep rec kids i r :=
  h.imp fun _ h => ⟨(Stepped.refl.step i).trans h.1, h.2⟩

end IsobarV.Pat

/-! ### Tools for the class-wise stickiness proofs (`Props/C09*.lean`) -/

namespace IsobarV.C09
open IsobarV.Pat

/-- If an invariant of (kids, state) implies "this step yields no value" and is preserved by the step,
    no later step ever yields a value. -/
theorem clsOuts_noVal (step : ClsStep) (rec : Rec) (I : List Pat → St → Prop)
    (hI : ∀ kids st, I kids st → NoVal (step rec kids st).out ∧ I (step rec kids st).kids (step rec kids st).st) :
    ∀ n kids st, I kids st → ∀ o ∈ clsOuts step rec n kids st, NoVal o := by
  intro n
  induction n with
  | zero => intro kids st _ o ho; simp [clsOuts] at ho
  | succ n ih =>
    intro kids st h o ho
    obtain ⟨h1, h2⟩ := hI kids st h
    simp only [clsOuts, List.mem_cons] at ho
    rcases ho with rfl | ho
    · exact h1
    · exact ih _ _ h2 o ho

/-- The kid at index `i` is dead under `rec`. -/
def DeadAt (rec : Rec) (kids : List Pat) (i : Nat) : Prop := ∃ k, kids[i]? = some k ∧ DeadUnder rec k

theorem DeadAt.step {rec : Rec} {kids : List Pat} {i : Nat} (h : DeadAt rec kids i) :
    NoVal (stepKid rec kids i).1 ∧ DeadAt rec (stepKid rec kids i).2 i := by
  obtain ⟨k, hk, hd⟩ := h
  obtain ⟨d1, d2⟩ := hd.step
  have hi : i < kids.length := (List.getElem?_eq_some_iff.mp hk).1
  simp only [stepKid, hk]
  exact ⟨d1, ⟨(rec k).p, by simp [hi], d2⟩⟩

theorem DeadAt.other {rec : Rec} {kids : List Pat} {i j : Nat} (h : DeadAt rec kids i) (hij : j ≠ i) :
    DeadAt rec (stepKid rec kids j).2 i := by
  obtain ⟨k, hk, hd⟩ := h
  unfold stepKid
  cases hj : kids[j]? with
  | none => exact ⟨k, hk, hd⟩
  | some kj => exact ⟨k, by simp [List.getElem?_set_ne hij, hk], hd⟩

theorem stepKid_stop_dead {P : Pat → Prop} {rec : Rec} (hrec : RecSticky P rec) {kids : List Pat} {i : Nat}
    (hk : ∀ k ∈ kids, P k) (hs : (stepKid rec kids i).1 = .stop) : DeadAt rec (stepKid rec kids i).2 i := by
  unfold stepKid at hs ⊢
  cases h : kids[i]? with
  | none => simp [h] at hs
  | some k =>
    have hi : i < kids.length := (List.getElem?_eq_some_iff.mp h).1
    simp only [h] at hs ⊢
    exact ⟨(rec k).p, by simp [hi], (hrec k (hk k (List.mem_of_getElem? h))).2 hs⟩

theorem stepKid_P {P : Pat → Prop} {rec : Rec} (hrec : RecSticky P rec) (kids : List Pat) (i : Nat)
    (hk : ∀ k ∈ kids, P k) : ∀ k ∈ (stepKid rec kids i).2, P k :=
  (Stepped.refl.step i).sticky hrec hk

/-- A dead kid stays dead whatever is stepped. -/
theorem DeadAt.stepped {rec : Rec} {kids ks : List Pat} {i : Nat} (h : DeadAt rec kids i) (hs : Stepped rec kids ks) :
    DeadAt rec ks i := by
  induction hs with
  | refl => exact h
  | @kid ks j _ ih =>
    by_cases hj : j = i
    · exact hj ▸ (hj ▸ ih).step.2
    · exact ih.other hj

/-- A step that yields no value and changes neither kids nor state is repeated for ever. -/
theorem clsOuts_fixpoint {step : ClsStep} {rec : Rec} {kids : List Pat} {st : St} (h1 : (step rec kids st).kids = kids)
    (h2 : (step rec kids st).st = st) (ho : NoVal (step rec kids st).out) :
    ∀ n, ∀ o ∈ clsOuts step rec n (step rec kids st).kids (step rec kids st).st, NoVal o := by
  rw [h1, h2]
  exact fun n => clsOuts_noVal step rec (fun k s => k = kids ∧ s = st)
    (by rintro _ _ ⟨rfl, rfl⟩; exact ⟨ho, h1, h2⟩) n _ _ ⟨rfl, rfl⟩

/-- A class that yields no value while kid `i` is dead never yields one again once kid `i` is dead. -/
theorem clsOuts_dead {step : ClsStep} {rec : Rec} {i : Nat} (hst : ∀ kids st, Stepped rec kids (step rec kids st).kids)
    (hnv : ∀ kids st, DeadAt rec kids i → NoVal (step rec kids st).out) {kids : List Pat} {st : St}
    (h : DeadAt rec kids i) : ∀ n, ∀ o ∈ clsOuts step rec n kids st, NoVal o :=
  fun n => clsOuts_noVal step rec (fun kids _ => DeadAt rec kids i)
    (fun kids st (h : DeadAt rec kids i) => ⟨hnv kids st h, h.stepped (hst kids st)⟩) n _ _ h

/-- A class is sticky when a StopIteration leads into a set `I` of (kids, own state) that no step leaves and in
    which no step yields a value. -/
theorem _root_.IsobarV.Pat.ClsSticky.of_absorbing {c : Cls} {step : ClsStep} (hc : clsStep c = step) (I : Rec → List Pat → St → Prop)
    (hst : ∀ rec kids st, Stepped rec kids (step rec kids st).kids)
    (hstop : ∀ {P rec kids st}, RecSticky P rec → (∀ k ∈ kids, P k) → (step rec kids st).out = .stop →
      I rec (step rec kids st).kids (step rec kids st).st)
    (hI : ∀ {rec kids st}, I rec kids st → NoVal (step rec kids st).out ∧ I rec (step rec kids st).kids (step rec kids st).st) :
    ClsSticky c := by
  subst hc
  exact fun P rec kids st hrec hk => ⟨(hst rec kids st).sticky hrec hk, fun hs n =>
    clsOuts_noVal _ rec (I rec) (fun _ _ => hI) n _ _ (hstop hrec hk hs)⟩

/-- One-input classes that end only when the input has ended with the own state in `D`, and from then on pass on
    what the input does and leave the state alone. -/
theorem _root_.IsobarV.Pat.ClsSticky.of_input {c : Cls} {step : ClsStep} (hc : clsStep c = step) (D : St → Prop)
    (hst : ∀ rec kids st, Stepped rec kids (step rec kids st).kids)
    (hstop : ∀ {rec kids st}, (step rec kids st).out = .stop → (stepKid rec kids 0).1 = .stop ∧ D st)
    (hend : ∀ {rec kids st}, D st → NoVal (stepKid rec kids 0).1 →
      step rec kids st = ⟨(stepKid rec kids 0).1, (stepKid rec kids 0).2, st⟩) : ClsSticky c :=
  .of_absorbing hc (fun rec kids st => DeadAt rec kids 0 ∧ D st) hst
    (fun hrec hk hs => by
      obtain ⟨h1, h2⟩ := hstop hs
      rw [hend h2 (.of_stop h1)]; exact ⟨stepKid_stop_dead hrec hk h1, h2⟩)
    (fun ⟨hd, h2⟩ => by rw [hend h2 hd.step.1]; exact ⟨hd.step.1, hd.step.2, h2⟩)

theorem _root_.IsobarV.Pat.StoppedAt.dead {P : Pat → Prop} {rec : Rec} {kids ks : List Pat} {i : Nat}
    (h : StoppedAt rec kids ks i) (hrec : RecSticky P rec) (hk : ∀ k ∈ kids, P k) : DeadAt rec ks i := by
  obtain ⟨k0, hs, hstop, rfl⟩ := h
  exact stepKid_stop_dead hrec (hs.sticky hrec hk) hstop

theorem _root_.IsobarV.Pat.LastStep.dead {rec : Rec} {kids : List Pat} {i : Nat} {r : Out × List Pat} (h : LastStep rec kids i r)
    (hd : DeadAt rec kids i) : NoVal r.1 ∧ DeadAt rec r.2 i := by
  obtain ⟨ks, hst, rfl | rfl⟩ := h
  · exact ⟨.of_err rfl, hd.stepped hst⟩
  · exact (hd.stepped hst).step

/-- A class whose step is a loop over its input: it ends only with the input, and then for good. -/
theorem _root_.IsobarV.Pat.ClsSticky.of_lastStep {c : Cls} {step : ClsStep} (hc : clsStep c = step)
    (h : ∀ rec kids st, LastStep rec kids 0 ((step rec kids st).out, (step rec kids st).kids)) : ClsSticky c :=
  .of_absorbing hc (fun rec kids _ => DeadAt rec kids 0) (fun rec kids st => (h rec kids st).stepped)
    (fun hrec hk hs => ((h _ _ _).stopped hs).dead hrec hk) (fun hd => (h _ _ _).dead hd)

/-! In every case of their definitions the value functions of the core return a value or an exception,
never StopIteration. -/

theorem binopInt_ne_stop (op : BinOp) (i j : Int) : binopInt op i j ≠ .stop := by
  fun_cases binopInt op i j <;> exact Out.noConfusion

theorem binopFlt_ne_stop (op : BinOp) (x y : Rat) : binopFlt op x y ≠ .stop := by
  fun_cases binopFlt op x y <;> exact Out.noConfusion

theorem binopAtom_ne_stop (op : BinOp) (a b : Atom) : binopAtom op a b ≠ .stop := by
  fun_cases binopAtom op a b
  · exact binopInt_ne_stop _ _ _
  · exact binopFlt_ne_stop _ _ _
  all_goals exact Out.noConfusion

theorem binopVal_ne_stop (op : BinOp) (a b : Val) : binopVal op a b ≠ .stop := by
  fun_cases binopVal op a b
  · exact Out.noConfusion
  · exact Out.noConfusion
  · exact binopAtom_ne_stop _ _ _
  all_goals exact Out.noConfusion

theorem absVal_ne_stop (a : Val) : absVal a ≠ .stop := by
  fun_cases absVal a <;> exact Out.noConfusion

theorem intVal_ne_stop (a : Val) : intVal a ≠ .stop := by
  fun_cases intVal a <;> exact Out.noConfusion

end IsobarV.C09
