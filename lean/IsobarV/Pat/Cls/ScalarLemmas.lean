/-
What the step functions of `Pat/Cls/Scalar.lean` do.
* `pollKids` / `stepPoll` (resolve attributes in a fixed order, then compute): a step only steps kids, ends with
  the first attribute that yields no value, advances each resolved attribute by one and, while all kids yield
  values, runs the computation over the rows of those values (`poll_run`; the `poll<k>[r]_reference` / `_ends`
  theorems are its instances at the arities and orders in use).
* The computations with own state (`normF`, `oscF`, `enumF`, `mapF`) and `stepDelta`, case by case.
-/
import IsobarV.Pat.Streams
import IsobarV.Pat.Sticky

namespace IsobarV.Pat
open IsobarV.C09

variable {rec : Rec} {kids : List Pat} {n : Nat}
variable {ord : Nat → List Nat} {is : List Nat} {cols : List (List Val)}

theorem pollKids_fail_head {i : Nat} {k : Pat} {o : Out} (hk : kids[i]? = some k)
    (h : (rec k).out = o) (hn : NoVal o) : (pollKids rec (i :: is) kids).fail = some o := by
  have e : (stepKid rec kids i).1 = o := by rw [stepKid_get rec kids i k hk]; exact h
  rw [pollKids]
  split
  · rename_i v hv; exact absurd (e.symm.trans hv) (hn v)
  · exact congrArg some e

theorem pollKids_stepped : Stepped rec kids (pollKids rec is kids).kids := by
  fun_induction pollKids rec is kids with
  | case1 => exact .refl
  | case2 i _ _ _ _ ih => exact (Stepped.refl.step i).trans ih
  | case3 i => exact Stepped.refl.step i

theorem pollKids_length : (pollKids rec is kids).kids.length = kids.length := by
  fun_induction pollKids rec is kids with
  | case1 => rfl
  | case2 i _ kids _ _ ih => exact ih.trans (stepKid_length rec kids i)
  | case3 i _ kids => exact stepKid_length rec kids i

theorem pollKids_fail_noVal {o : Out} (h : (pollKids rec is kids).fail = some o) : NoVal o := by
  fun_induction pollKids rec is kids with
  | case1 => cases h
  | case2 _ _ _ _ _ ih => exact ih h
  | case3 _ _ _ hn => cases h; exact hn

theorem stepPoll_of_fail {o : Out} (h : (pollKids rec (ord kids.length) kids).fail = some o)
    (f : St → List Val → FRes) (st : St) :
    stepPoll ord f rec kids st = { out := o, kids := (pollKids rec (ord kids.length) kids).kids, st := st } := by
  simp only [stepPoll, h]

theorem stepPoll_of_vals (h : (pollKids rec (ord kids.length) kids).fail = Option.none) (f : St → List Val → FRes)
    (st : St) :
    stepPoll ord f rec kids st =
      { out := (f st (pollKids rec (ord kids.length) kids).vals).out, kids := (pollKids rec (ord kids.length) kids).kids,
        st := (f st (pollKids rec (ord kids.length) kids).vals).st } := by
  simp only [stepPoll, h]

theorem stepPoll_kids (ord : Nat → List Nat) (f : St → List Val → FRes) (rec : Rec) (kids : List Pat) (st : St) :
    (stepPoll ord f rec kids st).kids = (pollKids rec (ord kids.length) kids).kids := by
  simp only [stepPoll]
  split <;> rfl

theorem stepPoll_val {f : St → List Val → FRes} {st : St} {v : Val} (h : (stepPoll ord f rec kids st).out = .val v) :
    (pollKids rec (ord kids.length) kids).fail = Option.none := by
  cases hf : (pollKids rec (ord kids.length) kids).fail with
  | none => rfl
  | some o =>
    rw [stepPoll_of_fail hf] at h
    exact absurd h (pollKids_fail_noVal hf v)

theorem pollKids_ok {P : Pat → Prop} (hrec : RecOK P rec) (hk : ∀ k ∈ kids, P k) :
    (∀ k ∈ (pollKids rec is kids).kids, P k) ∧ (pollKids rec is kids).kids.map reset = kids.map reset :=
  pollKids_stepped.resetOK hrec hk

/-- A `stepPoll` class is reset-correct as soon as its computation does not change what the class's own
    reset makes of the state. -/
theorem poll_ok (ord : Nat → List Nat) (f : St → List Val → FRes) (c : Cls) (hc : clsStep c = stepPoll ord f)
    (hf : ∀ st vs, clsReset c (f st vs).st = clsReset c st) : ClsResetOK c := .of_stepped fun rec kids st => by
  rw [hc]
  refine ⟨stepPoll_kids ord f rec kids st ▸ pollKids_stepped, ?_⟩
  cases h : (pollKids rec (ord kids.length) kids).fail with
  | none => rw [stepPoll_of_vals h]; exact hf _ _
  | some o => rw [stepPoll_of_fail h]

theorem pollKids_stop {P : Pat → Prop} (hrec : RecSticky P rec) (hk : ∀ k ∈ kids, P k)
    (h : (pollKids rec is kids).fail = some .stop) : ∃ i, i ∈ is ∧ DeadAt rec (pollKids rec is kids).kids i := by
  fun_induction pollKids rec is kids with
  | case1 => cases h
  | case2 i _ kids _ _ ih =>
    obtain ⟨j, hj, hd⟩ := ih (stepKid_P hrec kids i hk) h
    exact ⟨j, List.mem_cons_of_mem _ hj, hd⟩
  | case3 i => exact ⟨i, List.mem_cons_self, stepKid_stop_dead hrec hk (Option.some.inj h)⟩

theorem pollKids_dead {i : Nat} (hi : i ∈ is) (hd : DeadAt rec kids i) :
    (∃ o, (pollKids rec is kids).fail = some o) ∧ DeadAt rec (pollKids rec is kids).kids i := by
  refine ⟨?_, hd.stepped pollKids_stepped⟩
  fun_induction pollKids rec is kids with
  | case1 => cases hi
  | case2 j _ _ v hv ih =>
    -- the dead attribute is not the one that has just yielded `v`
    have hji : j ≠ i := fun e => (e ▸ hd.step.1) v hv
    exact ih ((List.mem_cons.mp hi).resolve_left (Ne.symm hji)) (hd.other hji)
  | case3 => exact ⟨_, rfl⟩

/-- A `stepPoll` class whose computation never signals StopIteration itself is sticky: it ends only when
    one of its attributes ends, and every later resolution fails at that attribute or at one resolved before it. -/
theorem poll_sticky (ord : Nat → List Nat) (f : St → List Val → FRes) (c : Cls) (hc : clsStep c = stepPoll ord f)
    (hf : ∀ st vs, (f st vs).out ≠ .stop) : ClsSticky c := by
  intro P rec kids st hrec hk
  rw [hc]
  refine ⟨stepPoll_kids ord f rec kids st ▸ pollKids_stepped.sticky hrec hk, fun hs => ?_⟩
  have hd : ∃ i, i ∈ ord (stepPoll ord f rec kids st).kids.length ∧ DeadAt rec (stepPoll ord f rec kids st).kids i := by
    rw [stepPoll_kids, pollKids_length]
    cases h : (pollKids rec (ord kids.length) kids).fail with
    | none => rw [stepPoll_of_vals h] at hs; exact absurd hs (hf _ _)
    | some o =>
      rw [stepPoll_of_fail h] at hs
      exact pollKids_stop hrec hk (h.trans (congrArg some hs))
  intro n
  apply clsOuts_noVal (stepPoll ord f) rec (fun kids _ => ∃ i, i ∈ ord kids.length ∧ DeadAt rec kids i) _ n _ _ hd
  intro kids st ⟨i, hi, hdi⟩
  obtain ⟨⟨o, ho⟩, hd2⟩ := pollKids_dead hi hdi
  rw [stepPoll_of_fail ho]
  exact ⟨pollKids_fail_noVal ho, i, by rw [pollKids_length]; exact hi, hd2⟩

theorem pollKids_getElem? (hnd : is.Nodup) (j : Nat) (h : (pollKids rec is kids).fail = Option.none) :
    (pollKids rec is kids).kids[j]? = if j ∈ is then (kids[j]?).map (fun k => (rec k).p) else kids[j]? := by
  fun_induction pollKids rec is kids with
  | case1 => rfl
  | case2 i is kids _ _ ih =>
    obtain ⟨hi, hnd'⟩ := List.nodup_cons.mp hnd
    rw [ih hnd' h, stepKid_getElem?]
    by_cases hji : j = i
    · subst hji; rw [if_neg hi, if_pos rfl, if_pos List.mem_cons_self]
    · simp only [List.mem_cons, hji, false_or, if_false]
  | case3 => cases h

/-- **Consumption**: a step of a `stepPoll` class that yields a value has advanced each attribute it resolves
    by exactly one `rec`-step (one value consumed: none skipped, none read twice) … -/
theorem poll_param_once (ord : Nat → List Nat) (f : St → List Val → FRes) (hnd : ∀ n, (ord n).Nodup)
    (rec : Rec) (kids : List Pat) (st : St) (v : Val) (h : (stepPoll ord f rec kids st).out = .val v)
    (i : Nat) (k : Pat) (hi : i ∈ ord kids.length) (hk : kids[i]? = some k) :
    (stepPoll ord f rec kids st).kids[i]? = some (rec k).p := by
  rw [stepPoll_kids, pollKids_getElem? (hnd _) i (stepPoll_val h), if_pos hi, hk]
  rfl

/-- … and has left every other attribute alone. -/
theorem poll_other_untouched (ord : Nat → List Nat) (f : St → List Val → FRes) (hnd : ∀ n, (ord n).Nodup)
    (rec : Rec) (kids : List Pat) (st : St) (v : Val) (h : (stepPoll ord f rec kids st).out = .val v)
    (i : Nat) (hi : i ∉ ord kids.length) :
    (stepPoll ord f rec kids st).kids[i]? = kids[i]? := by
  rw [stepPoll_kids, pollKids_getElem? (hnd _) i (stepPoll_val h), if_neg hi]

theorem ordArgsFirst_nodup (n : Nat) : (ordArgsFirst n).Nodup := by
  refine List.nodup_append.mpr ⟨List.nodup_range', List.pairwise_singleton _ _, fun a ha b hb => ?_⟩
  cases List.mem_singleton.mp hb
  exact Nat.ne_of_gt (List.mem_range'_1.mp ha).1

theorem mem_ordArgsFirst (n i : Nat) (hi : i < n) : i ∈ ordArgsFirst n := by
  cases i with
  | zero => exact List.mem_append_right _ (List.mem_singleton.mpr rfl)
  | succ i => exact List.mem_append_left _ (List.mem_range'_1.mpr ⟨Nat.succ_pos i, by omega⟩)

/-- The outcomes of a computation `f` over successive rows of resolved values (own state threaded). -/
def runF (f : St → List Val → FRes) : St → List (List Val) → List Out
  | _, [] => []
  | st, r :: rs => (f st r).out :: runF f (f st r).st rs

theorem runF_const_st (f : St → List Val → FRes) (hf : ∀ st r, (f st r).st = st) (st : St) (rows : List (List Val)) :
    runF f st rows = rows.map (fun r => (f st r).out) := by
  induction rows with
  | nil => rfl
  | cons r rs ih => simp [runF, hf, ih]

theorem runF_pure1 (g : List Val → Out) (st : St) (rows : List (List Val)) : runF (pure1 g) st rows = rows.map g :=
  runF_const_st _ (fun _ _ => rfl) st rows

def rows3 : List Val → List Val → List Val → List (List Val)
  | x :: xs, y :: ys, z :: zs => [x, y, z] :: rows3 xs ys zs
  | _, _, _ => []

def rows5 : List Val → List Val → List Val → List Val → List Val → List (List Val)
  | a :: as, b :: bs, c :: cs, d :: ds, e :: es => [a, b, c, d, e] :: rows5 as bs cs ds es
  | _, _, _, _, _ => []

/-- The first `n` rows of the table with columns `cols` (a column that is too short is padded with rests). -/
def pollRows : Nat → List (List Val) → List (List Val)
  | 0, _ => []
  | n + 1, cols => cols.map (·.headD Val.none) :: pollRows n (cols.map List.tail)

/-- Each kid yields, for `n` steps, the values of its column. -/
inductive Feeds (rec : Rec) (n : Nat) : List Pat → List (List Val) → Prop where
  | nil : Feeds rec n [] []
  | cons {k : Pat} {ks : List Pat} {xs : List Val} {cols : List (List Val)} :
      recOuts rec n k = xs.map .val → Feeds rec n ks cols → Feeds rec n (k :: ks) (xs :: cols)

theorem Feeds.get (h : Feeds rec n kids cols) {i : Nat} {k : Pat}
    (hk : kids[i]? = some k) : recOuts rec n k = (cols.getD i []).map .val := by
  induction h generalizing i with
  | nil => cases hk
  | cons hx _ ih =>
    cases i with
    | zero => cases hk; exact hx
    | succ i => exact ih hk

theorem Feeds.step (h : Feeds rec (n + 1) kids cols) :
    Feeds rec n (kids.map fun k => (rec k).p) (cols.map List.tail) := by
  induction h with
  | nil => exact .nil
  | cons hx _ ih => exact .cons (recOuts_succ_vals hx).2 ih

theorem pollKids_vals {hd : Nat → Val} (hnd : is.Nodup)
    (h : ∀ i ∈ is, ∃ k, kids[i]? = some k ∧ (rec k).out = .val (hd i)) :
    (pollKids rec is kids).fail = Option.none ∧ (pollKids rec is kids).vals = is.map hd := by
  fun_induction pollKids rec is kids with
  | case1 => exact ⟨rfl, rfl⟩
  | case2 i is kids v hv ih =>
    obtain ⟨hi, hnd'⟩ := List.nodup_cons.mp hnd
    obtain ⟨k, hk, hv'⟩ := h i List.mem_cons_self
    rw [stepKid_get rec kids i k hk, hv'] at hv
    cases Out.val.inj hv
    obtain ⟨h1, h2⟩ := ih hnd' fun j hj => by
      rw [stepKid_getElem?, if_neg (by rintro rfl; exact hi hj)]
      exact h j (List.mem_cons_of_mem _ hj)
    exact ⟨h1, congrArg (hd i :: ·) h2⟩
  | case3 i _ kids hn =>
    obtain ⟨k, hk, hv⟩ := h i List.mem_cons_self
    exact absurd (by rw [stepKid_get rec kids i k hk]; exact hv) (hn (hd i))

theorem stepPoll_all {hd : Nat → Val}
    (his : ord kids.length = is) (hp : is.Perm (List.range kids.length))
    (h : ∀ i k, kids[i]? = some k → (rec k).out = .val (hd i)) (f : St → List Val → FRes) (st : St) :
    stepPoll ord f rec kids st =
      { out := (f st (is.map hd)).out, kids := kids.map fun k => (rec k).p, st := (f st (is.map hd)).st } := by
  have hnd : is.Nodup := hp.nodup_iff.mpr List.nodup_range
  have hmem : ∀ i, i ∈ is ↔ i < kids.length := fun i => hp.mem_iff.trans List.mem_range
  obtain ⟨h1, h2⟩ := pollKids_vals hnd fun i hi =>
    ⟨kids[i]'((hmem i).mp hi), List.getElem?_eq_getElem _, h i _ (List.getElem?_eq_getElem _)⟩
  have h3 : (pollKids rec is kids).kids = kids.map fun k => (rec k).p := by
    apply List.ext_getElem?
    intro j
    rw [pollKids_getElem? hnd j h1, List.getElem?_map]
    split
    · rfl
    · rename_i hj
      rw [List.getElem?_eq_none (Nat.le_of_not_lt fun hlt => hj ((hmem j).mpr hlt))]; rfl
  subst his
  rw [stepPoll_of_vals h1, h2, h3]

theorem getD_map_tail (cols : List (List Val)) (i : Nat) : (cols.map List.tail).getD i [] = (cols.getD i []).tail := by
  simp only [List.getD_eq_getElem?_getD, List.getElem?_map]
  cases cols[i]? <;> rfl

/-- **Reference for the classes that resolve each of their `k` kids once per step, in any order `is`**: while all
    kids yield values the computation `f` runs over the rows of those values (in resolution order), and the kids
    advance in step. -/
theorem poll_run (ord : Nat → List Nat) (f : St → List Val → FRes) (n m : Nat)
    (st : St) {k : Nat} (his : ord k = is) (hp : is.Perm (List.range k)) (hk : kids.length = k)
    (h : Feeds rec n kids cols) :
    ∃ st', clsOuts (stepPoll ord f) rec (n + m) kids st =
      runF f st (pollRows n (is.map (cols.getD · []))) ++ clsOuts (stepPoll ord f) rec m (kids.map (recAfter rec n)) st' := by
  induction n generalizing kids cols st with
  | zero => exact ⟨st, by simp [pollRows, runF, recAfter]⟩
  | succ n ih =>
    have hs := stepPoll_all (hd := fun i => (cols.getD i []).headD Val.none) (hk ▸ his) (hk ▸ hp)
      (fun i k hk => (recOuts_succ_vals (h.get hk)).1) f st
    obtain ⟨st', e⟩ := ih (kids := kids.map fun k => (rec k).p) (cols := cols.map List.tail)
      (f st (is.map fun i => (cols.getD i []).headD Val.none)).st (by rw [List.length_map, hk]) h.step
    refine ⟨st', ?_⟩
    rw [Nat.succ_add]
    simp only [clsOuts, hs, pollRows, runF, List.map_map, List.cons_append]
    simp only [getD_map_tail, List.map_map] at e
    exact congrArg _ e

theorem poll_reference {k : Nat} (his : ord k = is) (hp : is.Perm (List.range k)) (hk : kids.length = k)
    (f : St → List Val → FRes) (st : St) (h : Feeds rec n kids cols) {rows : List (List Val)}
    (hr : pollRows n (is.map (cols.getD · [])) = rows) : clsOuts (stepPoll ord f) rec n kids st = runF f st rows := by
  obtain ⟨_, e⟩ := poll_run ord f n 0 st his hp hk h
  exact hr ▸ e.trans (List.append_nil _)

/-- The step after: whatever ends the resolution then ends the run. -/
theorem poll_ends {k : Nat} (his : ord k = is) (hp : is.Perm (List.range k)) (hk : kids.length = k)
    (f : St → List Val → FRes) (st : St) (h : Feeds rec n kids cols) {rows : List (List Val)}
    (hr : pollRows n (is.map (cols.getD · [])) = rows) {o : Out}
    (hlast : (pollKids rec is (kids.map (recAfter rec n))).fail = some o) :
    clsOuts (stepPoll ord f) rec (n + 1) kids st = runF f st rows ++ [o] := by
  obtain ⟨st', e⟩ := poll_run ord f n 1 st his hp hk h
  rw [e, hr, clsOuts, clsOuts, stepPoll_of_fail (by rw [List.length_map, hk, his]; exact hlast)]

theorem pollRows_one {xs : List Val} (hx : xs.length = n) : pollRows n [xs] = xs.map fun x => [x] := by
  induction n generalizing xs with
  | zero => cases List.eq_nil_of_length_eq_zero hx; rfl
  | succ n ih =>
    obtain ⟨x, xs, rfl⟩ := List.exists_cons_of_length_eq_add_one hx
    exact congrArg ([x] :: ·) (ih (Nat.succ.inj hx))

theorem pollRows_two {xs ys : List Val} (hx : xs.length = n) (hy : ys.length = n) :
    pollRows n [xs, ys] = List.zipWith (fun x y => [x, y]) xs ys := by
  induction n generalizing xs ys with
  | zero => cases List.eq_nil_of_length_eq_zero hx; rfl
  | succ n ih =>
    obtain ⟨x, xs, rfl⟩ := List.exists_cons_of_length_eq_add_one hx
    obtain ⟨y, ys, rfl⟩ := List.exists_cons_of_length_eq_add_one hy
    exact congrArg ([x, y] :: ·) (ih (Nat.succ.inj hx) (Nat.succ.inj hy))

theorem pollRows_three {xs ys zs : List Val} (hx : xs.length = n) (hy : ys.length = n) (hz : zs.length = n) :
    pollRows n [xs, ys, zs] = rows3 xs ys zs := by
  induction n generalizing xs ys zs with
  | zero => cases List.eq_nil_of_length_eq_zero hx; rfl
  | succ n ih =>
    obtain ⟨x, xs, rfl⟩ := List.exists_cons_of_length_eq_add_one hx
    obtain ⟨y, ys, rfl⟩ := List.exists_cons_of_length_eq_add_one hy
    obtain ⟨z, zs, rfl⟩ := List.exists_cons_of_length_eq_add_one hz
    exact congrArg ([x, y, z] :: ·) (ih (Nat.succ.inj hx) (Nat.succ.inj hy) (Nat.succ.inj hz))

theorem pollRows_five {as bs cs ds es : List Val} (ha : as.length = n) (hb : bs.length = n) (hc : cs.length = n)
    (hd : ds.length = n) (he : es.length = n) : pollRows n [as, bs, cs, ds, es] = rows5 as bs cs ds es := by
  induction n generalizing as bs cs ds es with
  | zero => cases List.eq_nil_of_length_eq_zero ha; rfl
  | succ n ih =>
    obtain ⟨a, as, rfl⟩ := List.exists_cons_of_length_eq_add_one ha
    obtain ⟨b, bs, rfl⟩ := List.exists_cons_of_length_eq_add_one hb
    obtain ⟨c, cs, rfl⟩ := List.exists_cons_of_length_eq_add_one hc
    obtain ⟨d, ds, rfl⟩ := List.exists_cons_of_length_eq_add_one hd
    obtain ⟨e, es, rfl⟩ := List.exists_cons_of_length_eq_add_one he
    exact congrArg ([a, b, c, d, e] :: ·)
      (ih (Nat.succ.inj ha) (Nat.succ.inj hb) (Nat.succ.inj hc) (Nat.succ.inj hd) (Nat.succ.inj he))

theorem poll1_reference (ord : Nat → List Nat) (hord : ord 1 = [0]) (f : St → List Val → FRes) (rec : Rec) (n : Nat)
    (a : Pat) (st : St) (xs : List Val) (ha : recOuts rec n a = xs.map .val) :
    clsOuts (stepPoll ord f) rec n [a] st = runF f st (xs.map (fun x => [x])) :=
  poll_reference hord (by decide) rfl f st (.cons ha .nil) (pollRows_one (vals_length ha))

theorem poll2_reference (ord : Nat → List Nat) (hord : ord 2 = [0, 1]) (f : St → List Val → FRes) (rec : Rec) (n : Nat)
    (a b : Pat) (st : St) (xs ys : List Val) (ha : recOuts rec n a = xs.map .val) (hb : recOuts rec n b = ys.map .val) :
    clsOuts (stepPoll ord f) rec n [a, b] st = runF f st (List.zipWith (fun x y => [x, y]) xs ys) :=
  poll_reference hord (by decide) rfl f st (.cons ha (.cons hb .nil)) (pollRows_two (vals_length ha) (vals_length hb))

/-- Two attributes, the second one resolved first (`PMap` with one argument: argument, then input). -/
theorem poll2r_reference (ord : Nat → List Nat) (hord : ord 2 = [1, 0]) (f : St → List Val → FRes) (rec : Rec) (n : Nat)
    (a b : Pat) (st : St) (xs ys : List Val) (ha : recOuts rec n a = xs.map .val) (hb : recOuts rec n b = ys.map .val) :
    clsOuts (stepPoll ord f) rec n [a, b] st = runF f st (List.zipWith (fun x y => [y, x]) xs ys) :=
  poll_reference hord (by decide) rfl f st (.cons ha (.cons hb .nil))
    ((pollRows_two (vals_length hb) (vals_length ha)).trans List.zipWith_comm)

theorem poll3_reference (ord : Nat → List Nat) (hord : ord 3 = [0, 1, 2]) (f : St → List Val → FRes) (rec : Rec) (n : Nat)
    (a b c : Pat) (st : St) (xs ys zs : List Val) (ha : recOuts rec n a = xs.map .val) (hb : recOuts rec n b = ys.map .val)
    (hc : recOuts rec n c = zs.map .val) :
    clsOuts (stepPoll ord f) rec n [a, b, c] st = runF f st (rows3 xs ys zs) :=
  poll_reference hord (by decide) rfl f st (.cons ha (.cons hb (.cons hc .nil)))
    (pollRows_three (vals_length ha) (vals_length hb) (vals_length hc))

/-- Three attributes, arguments first (`PMap` with two arguments). -/
theorem poll3r_reference (ord : Nat → List Nat) (hord : ord 3 = [1, 2, 0]) (f : St → List Val → FRes) (rec : Rec) (n : Nat)
    (a b c : Pat) (st : St) (xs ys zs : List Val) (ha : recOuts rec n a = xs.map .val) (hb : recOuts rec n b = ys.map .val)
    (hc : recOuts rec n c = zs.map .val) :
    clsOuts (stepPoll ord f) rec n [a, b, c] st = runF f st (rows3 ys zs xs) :=
  poll_reference hord (by decide) rfl f st (.cons ha (.cons hb (.cons hc .nil)))
    (pollRows_three (vals_length hb) (vals_length hc) (vals_length ha))

/-- Five attributes, the four arguments first (`PScaleLinLin`, `PScaleLinExp`). -/
theorem poll5r_reference (ord : Nat → List Nat) (hord : ord 5 = [1, 2, 3, 4, 0]) (f : St → List Val → FRes) (rec : Rec)
    (n : Nat) (a b c d e : Pat) (st : St) (xs bs cs ds es : List Val)
    (ha : recOuts rec n a = xs.map .val) (hb : recOuts rec n b = bs.map .val) (hc : recOuts rec n c = cs.map .val)
    (hd : recOuts rec n d = ds.map .val) (he : recOuts rec n e = es.map .val) :
    clsOuts (stepPoll ord f) rec n [a, b, c, d, e] st = runF f st (rows5 bs cs ds es xs) :=
  poll_reference hord (by decide) rfl f st (.cons ha (.cons hb (.cons hc (.cons hd (.cons he .nil)))))
    (pollRows_five (vals_length hb) (vals_length hc) (vals_length hd) (vals_length he) (vals_length ha))

theorem poll1_ends (ord : Nat → List Nat) (hord : ord 1 = [0]) (f : St → List Val → FRes) (rec : Rec)
    (a : Pat) (st : St) (xs : List Val) (ha : recOuts rec (xs.length + 1) a = xs.map .val ++ [.stop]) :
    clsOuts (stepPoll ord f) rec (xs.length + 1) [a] st = runF f st (xs.map (fun x => [x])) ++ [.stop] := by
  obtain ⟨ha1, ha2⟩ := recOuts_snoc ha
  exact poll_ends hord (by decide) rfl f st (.cons ha1 .nil) (pollRows_one rfl) (pollKids_fail_head rfl ha2 noVal_stop)

/-- Two attributes in index order, the first one (the input) ends: the second is not resolved at that step. -/
theorem poll2_ends (ord : Nat → List Nat) (hord : ord 2 = [0, 1]) (f : St → List Val → FRes) (rec : Rec)
    (a b : Pat) (st : St) (xs ys : List Val) (ha : recOuts rec (xs.length + 1) a = xs.map .val ++ [.stop])
    (hb : recOuts rec xs.length b = ys.map .val) :
    clsOuts (stepPoll ord f) rec (xs.length + 1) [a, b] st = runF f st (List.zipWith (fun x y => [x, y]) xs ys) ++ [.stop] := by
  obtain ⟨ha1, ha2⟩ := recOuts_snoc ha
  exact poll_ends hord (by decide) rfl f st (.cons ha1 (.cons hb .nil)) (pollRows_two rfl (vals_length hb))
    (pollKids_fail_head rfl ha2 noVal_stop)

/-- `PMap` with one argument: the argument is resolved (once more) before the input is found to have ended. -/
theorem poll2r_ends (ord : Nat → List Nat) (hord : ord 2 = [1, 0]) (f : St → List Val → FRes) (rec : Rec)
    (a b : Pat) (st : St) (xs ys : List Val) (y' : Val) (ha : recOuts rec (xs.length + 1) a = xs.map .val ++ [.stop])
    (hb : recOuts rec (xs.length + 1) b = ys.map .val ++ [.val y']) :
    clsOuts (stepPoll ord f) rec (xs.length + 1) [a, b] st = runF f st (List.zipWith (fun x y => [y, x]) xs ys) ++ [.stop] := by
  obtain ⟨ha1, ha2⟩ := recOuts_snoc ha
  obtain ⟨hb1, hb2⟩ := recOuts_snoc hb
  exact poll_ends hord (by decide) rfl f st (.cons ha1 (.cons hb1 .nil))
    ((pollRows_two (vals_length hb1) rfl).trans List.zipWith_comm) (by simp [pollKids, stepKid, ha2, hb2])

theorem poll3_ends (ord : Nat → List Nat) (hord : ord 3 = [0, 1, 2]) (f : St → List Val → FRes) (rec : Rec)
    (a b c : Pat) (st : St) (xs ys zs : List Val) (ha : recOuts rec (xs.length + 1) a = xs.map .val ++ [.stop])
    (hb : recOuts rec xs.length b = ys.map .val) (hc : recOuts rec xs.length c = zs.map .val) :
    clsOuts (stepPoll ord f) rec (xs.length + 1) [a, b, c] st = runF f st (rows3 xs ys zs) ++ [.stop] := by
  obtain ⟨ha1, ha2⟩ := recOuts_snoc ha
  exact poll_ends hord (by decide) rfl f st (.cons ha1 (.cons hb (.cons hc .nil)))
    (pollRows_three rfl (vals_length hb) (vals_length hc)) (pollKids_fail_head rfl ha2 noVal_stop)

theorem mapF_st (st : St) (vs : List Val) : (mapF st vs).st = st := by
  fun_cases mapF st vs <;> rfl

theorem enumF_reset (st : St) (vs : List Val) : resetMapEnumerated (enumF st vs).st = resetMapEnumerated st := by
  fun_cases enumF st vs <;> rfl

theorem normF_reset (st : St) (vs : List Val) : resetNormalise (normF st vs).st = resetNormalise st := by
  fun_cases normF st vs <;> rfl

theorem oscF_reset (shape : Rat → Rat) (st : St) (vs : List Val) : resetOsc (oscF shape st vs).st = resetOsc st := by
  fun_cases oscF shape st vs <;> rfl

theorem oscF_num {shape : Rat → Rat} {st : St} {l mn mx : Atom} {len lo hi : Num} {ph : Rat} (hl : l.toNum = some len)
    (hne : len.r ≠ 0) (hlo : mn.toNum = some lo) (hhi : mx.toNum = some hi) (hst : st.v0 = .flt ph) :
    oscF shape st [.a l, .a mn, .a mx] =
      { out := .val (.flt (lo.r + (hi.r - lo.r) * shape (ph / len.r))), st := { st with v0 := .flt (nextPhase ph len.r) } } := by
  unfold oscF
  simp only [hst, hl, if_neg hne, hlo, hhi]

theorem normF_first {st : St} {x : Atom} {v : Num} (hx : x.toNum = some v) (h0 : st.n0 = 0) :
    normF st [.a x] = { out := .val (.flt 0), st := { st with n0 := 1, v0 := .flt v.r, v1 := .flt v.r } } := by
  cases x with
  | none => cases hx
  | _ => unfold normF; dsimp only; rw [hx]; exact if_pos h0

theorem normF_next {st : St} {x : Atom} {v : Num} {lo hi : Rat} (hx : x.toNum = some v) (h0 : st.n0 ≠ 0)
    (hlo : st.v0 = .flt lo) (hhi : st.v1 = .flt hi) :
    normF st [.a x] = { out := .val (.flt (normOf (ratMin lo v.r) (ratMax hi v.r) v.r)),
                        st := { st with v0 := .flt (ratMin lo v.r), v1 := .flt (ratMax hi v.r) } } := by
  cases x with
  | none => cases hx
  | _ => unfold normF; simp only [hx, h0, if_false, hlo, hhi]

theorem normF_not_num {x : Atom} (hn : x ≠ .none) (hx : x.toNum = Option.none) (st : St) :
    normF st [.a x] = { out := .err .typeError, st := st } := by
  cases x with
  | none => exact absurd rfl hn
  | _ => unfold normF; simp only [hx]

theorem stepDelta_fail (h : NoVal (stepKid rec kids 0).1) (g : Val → Val → Out) (st : St) :
    stepDelta g rec kids st = { out := (stepKid rec kids 0).1, kids := (stepKid rec kids 0).2, st := st } := by
  unfold stepDelta
  cases hs : (stepKid rec kids 0).1 with
  | val v => exact absurd hs (h v)
  | _ => exact ite_self _

theorem stepDelta_load {st : St} {c : Val} (h0 : st.n0 = 0) (hc : (stepKid rec kids 0).1 = .val c)
    (g : Val → Val → Out) :
    stepDelta g rec kids st = stepDelta g rec (stepKid rec kids 0).2 { st with n0 := 1, v0 := c } := by
  unfold stepDelta
  rw [if_pos h0, hc, if_neg Int.one_ne_zero]

theorem stepDelta_val {st : St} {x : Val} (h0 : st.n0 ≠ 0) (hx : (stepKid rec kids 0).1 = .val x)
    (g : Val → Val → Out) :
    stepDelta g rec kids st =
      { out := g st.v0 x, kids := (stepKid rec kids 0).2, st := { st with v0 := keepOnErr (g st.v0 x) st.v0 x } } := by
  unfold stepDelta
  rw [if_neg h0, hx]

theorem stepDelta_stepped (g : Val → Val → Out) (rec : Rec) (kids : List Pat) (st : St) :
    Stepped rec kids (stepDelta g rec kids st).kids ∧ resetDelta (stepDelta g rec kids st).st = resetDelta st := by
  unfold stepDelta
  split
  · split
    · split <;> exact ⟨(Stepped.refl.step 0).step 0, rfl⟩
    · exact ⟨Stepped.refl.step 0, rfl⟩
  · split <;> exact ⟨Stepped.refl.step 0, rfl⟩

end IsobarV.Pat

namespace IsobarV.C09
open IsobarV.Pat

/- The computations never signal StopIteration themselves: in every case of their definitions the result is a
value, an exception, or the result of another such computation. -/

/-- Apart from rests and tuples, which it rejects, `arith` is the operator `binopVal`. -/
theorem arith_ne_stop (op : BinOp) (a b : Val) : arith op a b ≠ .stop := by
  fun_cases arith op a b
  · exact Out.noConfusion
  · exact Out.noConfusion
  · rename_i x y hx hy
    have : binopVal op (.a x) (.a y) = binopAtom op x y := by
      cases x <;> cases y <;> first | rfl | exact absurd rfl hx | exact absurd rfl hy
    exact this ▸ binopVal_ne_stop op _ _
  · exact Out.noConfusion

theorem andThen_ne_stop (o : Out) (k : Val → Out) (ho : o ≠ .stop) (hk : ∀ v, k v ≠ .stop) : o.andThen k ≠ .stop := by
  cases o with
  | val v => exact hk v
  | stop => exact ho
  | err e => exact Out.noConfusion

theorem fltOrOverflow_ne_stop (r : Rat) : fltOrOverflow r ≠ .stop := by
  fun_cases fltOrOverflow r <;> exact Out.noConfusion

theorem powApprox_ne_stop (b e : Rat) : powApprox b e ≠ .stop := by
  fun_cases powApprox b e
  all_goals first | exact fltOrOverflow_ne_stop _ | exact Out.noConfusion

theorem powVia_ne_stop (pw : Rat → Rat → Out) (hpw : ∀ b e, pw b e ≠ .stop) (b e : Val) : powVia pw b e ≠ .stop := by
  fun_cases powVia pw b e
  · exact hpw _ _
  all_goals exact Out.noConfusion

theorem skipIfVal_ne_stop (vs : List Val) : skipIfVal vs ≠ .stop := by
  fun_cases skipIfVal vs <;> exact Out.noConfusion

theorem scaleLinLinVal_ne_stop (vs : List Val) : scaleLinLinVal vs ≠ .stop := by
  fun_cases scaleLinLinVal vs
  · repeat (first | exact arith_ne_stop _ _ _ | (apply andThen_ne_stop; exact arith_ne_stop _ _ _; intro _))
  · exact Out.noConfusion

theorem scaleLinExpVal_ne_stop (pw : Rat → Rat → Out) (hpw : ∀ b e, pw b e ≠ .stop) (vs : List Val) :
    scaleLinExpVal pw vs ≠ .stop := by
  unfold scaleLinExpVal
  split
  · apply andThen_ne_stop _ _ (arith_ne_stop _ _ _)
    intro below
    split
    · exact Out.noConfusion
    · apply andThen_ne_stop _ _ (arith_ne_stop _ _ _)
      intro above
      split
      · exact Out.noConfusion
      · apply andThen_ne_stop _ _ (arith_ne_stop _ _ _); intro _
        apply andThen_ne_stop _ _ (arith_ne_stop _ _ _); intro _
        apply andThen_ne_stop _ _ (arith_ne_stop _ _ _); intro _
        apply andThen_ne_stop _ _ (arith_ne_stop _ _ _); intro _
        apply andThen_ne_stop _ _ (powVia_ne_stop pw hpw _ _); intro _
        exact arith_ne_stop _ _ _
  · exact Out.noConfusion

theorem roundVal_ne_stop (vs : List Val) : roundVal vs ≠ .stop := by
  fun_cases roundVal vs <;> exact Out.noConfusion

theorem scalarVal_ne_stop (vs : List Val) : scalarVal vs ≠ .stop := by
  fun_cases scalarVal vs <;> exact Out.noConfusion

theorem wrapVal_ne_stop (vs : List Val) : wrapVal vs ≠ .stop := by
  fun_cases wrapVal vs <;> exact Out.noConfusion

theorem indexOfVal_ne_stop (vs : List Val) : indexOfVal vs ≠ .stop := by
  fun_cases indexOfVal vs <;> exact Out.noConfusion

theorem degreeVal_ne_stop (vs : List Val) : degreeVal vs ≠ .stop := by
  fun_cases degreeVal vs <;> exact Out.noConfusion

theorem midiVal_ne_stop (pw : Rat → Rat → Out) (hpw : ∀ b e, pw b e ≠ .stop) (vs : List Val) : midiVal pw vs ≠ .stop := by
  fun_cases midiVal pw vs
  all_goals first | exact hpw _ _ | exact Out.noConfusion

theorem mapFn_ne_stop (fid : Int) (value : Val) (args : List Val) : mapFn fid value args ≠ .stop := by
  fun_cases mapFn fid value args
  all_goals first
    | exact arith_ne_stop _ _ _
    | exact andThen_ne_stop _ _ (arith_ne_stop _ _ _) (fun _ => arith_ne_stop _ _ _)
    | exact Out.noConfusion

theorem enumFn_ne_stop (fid : Int) (idx value : Val) (args : List Val) : enumFn fid idx value args ≠ .stop := by
  fun_cases enumFn fid idx value args
  all_goals first
    | exact arith_ne_stop _ _ _
    | exact andThen_ne_stop _ _ (arith_ne_stop _ _ _) (fun _ => arith_ne_stop _ _ _)
    | exact Out.noConfusion

theorem normF_ne_stop (st : St) (vs : List Val) : (normF st vs).out ≠ .stop := by
  fun_cases normF st vs <;> exact Out.noConfusion

theorem oscF_ne_stop (shape : Rat → Rat) (st : St) (vs : List Val) : (oscF shape st vs).out ≠ .stop := by
  fun_cases oscF shape st vs <;> exact Out.noConfusion

theorem mapF_ne_stop (st : St) (vs : List Val) : (mapF st vs).out ≠ .stop := by
  unfold mapF
  split
  · exact mapFn_ne_stop _ _ _
  · exact Out.noConfusion

theorem enumF_ne_stop (st : St) (vs : List Val) : (enumF st vs).out ≠ .stop := by
  unfold enumF
  split
  · exact enumFn_ne_stop _ _ _ _
  · exact Out.noConfusion

end IsobarV.C09
