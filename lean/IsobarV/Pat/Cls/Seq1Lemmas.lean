/-
What one step of a class of `Pat/Cls/Seq1.lean` does, for an arbitrary semantics `rec` of the sub-patterns: to its
kids (`stepX_stepped`: a `Stepped` fact, with what the class's reset makes of the state), which sub-steps a value or a
StopIteration comes from (`stepX_cases`, `stepX_stop`), and what it does once a sub-pattern is dead.
`Props/C04_Seq1`, `C09_Seq1` and `C12_Seq1` are corollaries.
-/
import IsobarV.Pat.Sticky

namespace IsobarV.Pat
open IsobarV.C09

theorem pyBin_ne_stop (op : BinOp) (a b : Val) : pyBin op a b ≠ .stop := by
  unfold pyBin
  split
  · nofun
  · nofun
  · exact binopVal_ne_stop _ _ _

variable {rec : Rec} {kids : List Pat} {st : St}

/-! ### PSeries -/

/-- `length` is read on every call; if the call ends there (no value, `count` has reached it, or they do not
    compare) nothing is committed; otherwise `step` is read, and only `step` can end the series then. -/
theorem stepSeries_cases (rec : Rec) (kids : List Pat) (st : St) :
    ((stepSeries rec kids st).kids = (stepKid rec kids 0).2 ∧ NoVal (stepSeries rec kids st).out ∧
      (stepSeries rec kids st).st = st) ∨
    ((stepSeries rec kids st).kids = (stepKid rec (stepKid rec kids 0).2 1).2 ∧
      ((stepSeries rec kids st).out = .stop →
        (stepKid rec (stepKid rec kids 0).2 1).1 = .stop ∧ (stepSeries rec kids st).st = st)) := by
  simp only [stepSeries]
  split
  · split
    · exact .inl ⟨rfl, noVal_err _, rfl⟩
    · exact .inl ⟨rfl, noVal_stop, rfl⟩
    · right; split
      · split
        · exact ⟨rfl, nofun⟩
        · exact ⟨rfl, fun h => absurd h (pyBin_ne_stop _ _ _)⟩
      · exact ⟨rfl, fun h => ⟨h, rfl⟩⟩
  · exact .inl ⟨rfl, ‹_›, rfl⟩

theorem stepSeries_stepped (rec : Rec) (kids : List Pat) (st : St) :
    Stepped rec kids (stepSeries rec kids st).kids ∧ resetSeries (stepSeries rec kids st).st = resetSeries st := by
  refine ⟨by rcases stepSeries_cases rec kids st with h | h <;> simp [h.1], ?_⟩
  simp only [stepSeries]; (repeat' split) <;> rfl

theorem stepSeries_noVal (h : NoVal (stepKid rec (stepKid rec kids 0).2 1).1) : NoVal (stepSeries rec kids st).out := by
  simp only [stepSeries]
  split
  · split
    · exact noVal_err _
    · exact noVal_stop
    · split
      · exact absurd ‹_› (h _)
      · exact h
  · assumption

/-! ### PRange -/

theorem rangeEmit_same {d : Val} :
    (rangeEmit d kids st).kids = kids ∧ resetRange (rangeEmit d kids st).st = resetRange st := by
  unfold rangeEmit; split <;> exact ⟨rfl, rfl⟩

/-- `end` is read on every call, `step` unless that ended the call. -/
theorem stepRange_cases (rec : Rec) (kids : List Pat) (st : St) :
    (stepRange rec kids st).kids = (stepKid rec kids 0).2 ∧ NoVal (stepRange rec kids st).out ∨
    (stepRange rec kids st).kids = (stepKid rec (stepKid rec kids 0).2 1).2 := by
  simp only [stepRange]
  split
  · right; (repeat' split) <;> first | rfl | exact rangeEmit_same.1
  · exact .inl ⟨rfl, ‹_›⟩

theorem stepRange_stepped (rec : Rec) (kids : List Pat) (st : St) :
    Stepped rec kids (stepRange rec kids st).kids ∧ resetRange (stepRange rec kids st).st = resetRange st := by
  refine ⟨by rcases stepRange_cases rec kids st with h | h <;> simp [h], ?_⟩
  simp only [stepRange]; (repeat' split) <;> first | rfl | exact rangeEmit_same.2

theorem rangeEmit_ne_stop {d : Val} : (rangeEmit d kids st).out ≠ .stop := by
  unfold rangeEmit
  split
  · nofun
  · exact pyBin_ne_stop _ _ _

theorem stepRange_stop (h : (stepRange rec kids st).out = .stop) :
    (stepRange rec kids st).st = st := by
  revert h
  simp only [stepRange]
  (repeat' split) <;> first | exact fun _ => rfl | exact fun h => absurd h rangeEmit_ne_stop

/-! ### PGeom -/

/-- Either `count` has reached `length` and nothing happens, or `multiply` is read, and only it can end PGeom then. -/
theorem stepGeom_cases (rec : Rec) (kids : List Pat) (st : St) :
    stepGeom rec kids st = { out := .stop, kids := kids, st := st } ∨
    (stepGeom rec kids st).kids = (stepKid rec kids 0).2 ∧
      ((stepGeom rec kids st).out = .stop → (stepKid rec kids 0).1 = .stop) := by
  simp only [stepGeom]
  split
  · exact .inl rfl
  · right; split
    · split
      · exact ⟨rfl, nofun⟩
      · exact ⟨rfl, fun h => absurd h (pyBin_ne_stop _ _ _)⟩
    · exact ⟨rfl, id⟩

theorem stepGeom_stepped (rec : Rec) (kids : List Pat) (st : St) :
    Stepped rec kids (stepGeom rec kids st).kids ∧ resetGeom (stepGeom rec kids st).st = resetGeom st := by
  refine ⟨by rcases stepGeom_cases rec kids st with h | h <;> simp [h], ?_⟩
  simp only [stepGeom]; (repeat' split) <;> rfl

theorem stepGeom_noVal (h : NoVal (stepKid rec kids 0).1) : NoVal (stepGeom rec kids st).out := by
  simp only [stepGeom]
  split
  · exact noVal_stop
  · split
    · exact absurd ‹_› (h _)
    · exact h

/-! ### PImpulse -/

/-- `period` is read on every call, and only it can end PImpulse. -/
theorem stepImpulse_kids (rec : Rec) (kids : List Pat) (st : St) :
    (stepImpulse rec kids st).kids = (stepKid rec kids 0).2 ∧
    ((stepImpulse rec kids st).out = .stop → (stepKid rec kids 0).1 = .stop) := by
  simp only [stepImpulse]
  split
  · (repeat' split) <;> exact ⟨rfl, nofun⟩
  · exact ⟨rfl, id⟩

theorem stepImpulse_stepped (rec : Rec) (kids : List Pat) (st : St) :
    Stepped rec kids (stepImpulse rec kids st).kids ∧ resetImpulse (stepImpulse rec kids st).st = resetImpulse st := by
  refine ⟨by simp [stepImpulse_kids], ?_⟩
  simp only [stepImpulse]; (repeat' split) <;> rfl

theorem stepImpulse_noVal (h : NoVal (stepKid rec kids 0).1) : NoVal (stepImpulse rec kids st).out := by
  simp only [stepImpulse]
  split
  · exact absurd ‹_› (h _)
  · exact h

/-! ### PLoop -/

theorem loopEmit_same : (loopEmit kids st).kids = kids ∧ resetLoop (loopEmit kids st).st = resetLoop st := by
  unfold loopEmit; split <;> exact ⟨rfl, rfl⟩

theorem loopTail_same : (loopTail kids st).kids = kids ∧ resetLoop (loopTail kids st).st = resetLoop st := by
  unfold loopTail; (repeat' split) <;> first | exact ⟨rfl, rfl⟩ | exact loopEmit_same

theorem stepLoop_stepped (rec : Rec) (kids : List Pat) (st : St) :
    Stepped rec kids (stepLoop rec kids st).kids ∧ resetLoop (stepLoop rec kids st).st = resetLoop st := by
  simp only [stepLoop]
  split
  · split
    · exact ⟨by simp [loopEmit_same], loopEmit_same.2⟩
    · exact ⟨by simp [loopTail_same], loopTail_same.2⟩
    · simp
  · simp [loopTail_same]

theorem loopEmit_ne_stop : (loopEmit kids st).out ≠ .stop := by
  unfold loopEmit; split <;> nofun

/-- PLoop is over: the input has been read through and the last repeat is played. -/
def LoopOver (st : St) : Prop := st.n3 ≠ 0 ∧ st.n1.toNat ≥ st.buf.length ∧ (st.n2 ≥ st.n0 - 1 ∨ st.buf.length = 0)

theorem stepLoop_over (h : LoopOver st) (rec : Rec) (kids : List Pat) :
    stepLoop rec kids st = { out := .stop, kids := kids, st := st } := by
  simp only [stepLoop, loopTail, h.1, h.2.1, h.2.2, if_false, if_true]

theorem loopTail_stop (h3 : st.n3 ≠ 0) (h : (loopTail kids st).out = .stop) :
    LoopOver (loopTail kids st).st := by
  revert h
  unfold loopTail
  split
  · split
    · exact fun _ => ⟨h3, ‹_›, ‹_›⟩
    · exact fun h => absurd h loopEmit_ne_stop
  · exact fun h => absurd h loopEmit_ne_stop

theorem stepLoop_stop (h : (stepLoop rec kids st).out = .stop) :
    LoopOver (stepLoop rec kids st).st := by
  revert h
  simp only [stepLoop]
  split
  · split
    · exact fun h => absurd h loopEmit_ne_stop
    · exact loopTail_stop (by simp)
    · rename_i hn; exact fun h => absurd h hn
  · exact loopTail_stop ‹_›

/-! ### PPingPong -/

/-- PPingPong never steps its input (the values were taken at construction); `values` is immutable. -/
theorem stepPingPong_stepped (rec : Rec) (kids : List Pat) (st : St) :
    Stepped rec kids (stepPingPong rec kids st).kids ∧ resetPingPong (stepPingPong rec kids st).st = resetPingPong st := by
  simp only [stepPingPong]; (repeat' split) <;> exact ⟨.refl, rfl⟩

theorem stepPingPong_stop (h : (stepPingPong rec kids st).out = .stop) :
    (stepPingPong rec kids st).kids = kids ∧ (stepPingPong rec kids st).st = st := by
  revert h
  simp only [stepPingPong]
  split
  · exact fun _ => ⟨rfl, rfl⟩
  · split
    · nofun
    · split
      · nofun
      · split <;> nofun

/-! ### PStutter -/

theorem stepStutter_stepped (rec : Rec) (kids : List Pat) (st : St) :
    Stepped rec kids (stepStutter rec kids st).kids ∧ resetStutter (stepStutter rec kids st).st = resetStutter st := by
  simp only [stepStutter]
  split
  · simp
  · split
    · split <;> simp [resetStutter]
    · simp
  · simp [resetStutter]

/-- At the end of a block `count` is read, then the input; if both yield a value both are committed, otherwise
    nothing is and the outcome is that of the one that failed. -/
theorem stepStutter_block (hb : numCmp .ge (Val.int st.n0) st.v1 = some true) :
    (∃ c x, (stepKid rec kids 1).1 = .val c ∧ (stepKid rec (stepKid rec kids 1).2 0).1 = .val x ∧
      stepStutter rec kids st =
        { out := .val x, kids := (stepKid rec (stepKid rec kids 1).2 0).2, st := { st with v0 := x, v1 := c, n0 := 1 } }) ∨
    NoVal (stepStutter rec kids st).out ∧ (stepStutter rec kids st).st = st ∧
      ((stepStutter rec kids st).out = (stepKid rec kids 1).1 ∧ (stepStutter rec kids st).kids = (stepKid rec kids 1).2 ∨
       (stepStutter rec kids st).out = (stepKid rec (stepKid rec kids 1).2 0).1 ∧
         (stepStutter rec kids st).kids = (stepKid rec (stepKid rec kids 1).2 0).2) := by
  simp only [stepStutter, hb]
  split
  · split
    · exact .inl ⟨_, _, ‹_›, ‹_›, rfl⟩
    · exact .inr ⟨‹_›, rfl, .inr ⟨rfl, rfl⟩⟩
  · exact .inr ⟨‹_›, rfl, .inl ⟨rfl, rfl⟩⟩

theorem stepStutter_stop (h : (stepStutter rec kids st).out = .stop) : numCmp .ge (Val.int st.n0) st.v1 = some true := by
  revert h
  simp only [stepStutter]
  split
  · nofun
  · exact fun _ => ‹_›
  · nofun

/-! ### The fill loop of PSubsequence and PCreep -/

theorem fillBuf_stepped (rec : Rec) (kids : List Pat) (k : Nat) (buf : List Val) :
    SteppedAt rec 0 kids (fillBuf rec k kids buf).2.1 := by
  induction k generalizing kids buf with
  | zero => exact .refl
  | succ k ih =>
    simp only [fillBuf]
    split
    · exact (SteppedAt.refl.kid).trans (ih _ _)
    · exact .kid .refl

variable {P : Pat → Prop} (hrec : RecSticky P rec)

include hrec in
theorem fillBuf_stop (k : Nat) (kids : List Pat) (buf : List Val) (hk : ∀ x ∈ kids, P x)
    (hs : (fillBuf rec k kids buf).1 = .stop) :
    DeadAt rec (fillBuf rec k kids buf).2.1 0 ∧ buf.length ≤ (fillBuf rec k kids buf).2.2.length ∧
      (fillBuf rec k kids buf).2.2.length < buf.length + k := by
  induction k generalizing kids buf with
  | zero => exact nomatch hs
  | succ k ih =>
    revert hs
    simp only [fillBuf]
    split
    · intro hs
      obtain ⟨i1, i2, i3⟩ := ih _ _ (stepKid_P hrec kids 0 hk) hs
      rw [List.length_append, List.length_singleton] at i2 i3
      exact ⟨i1, Nat.le_of_succ_le i2, by rwa [Nat.add_assoc, Nat.add_comm 1] at i3⟩
    · exact fun hs => ⟨stepKid_stop_dead hrec hk hs, Nat.le_refl _, Nat.lt_add_of_pos_right k.succ_pos⟩

theorem fillBuf_dead (h : DeadAt rec kids 0) (buf : List Val) :
    ∀ {k : Nat}, k ≠ 0 → NoVal (fillBuf rec k kids buf).1 ∧ (fillBuf rec k kids buf).2.2 = buf
  | 0, hk => absurd rfl hk
  | k + 1, _ => by
    simp only [fillBuf]
    split
    · exact absurd ‹_› (h.step.1 _)
    · exact ⟨‹_›, rfl⟩

/-- An input with the values `ws` to give: the loop takes them in. -/
theorem fillBuf_vals (rec : Rec) (tail : List Pat) (ws : List Val) : ∀ (kid : Pat) (buf : List Val) (j : Nat),
    recOuts rec ws.length kid = ws.map Out.val →
    fillBuf rec (ws.length + j) (kid :: tail) buf = fillBuf rec j (recAfter rec ws.length kid :: tail) (buf ++ ws) := by
  induction ws with
  | nil => intro kid buf j _; rw [List.length_nil, Nat.zero_add, List.append_nil]; rfl
  | cons w ws ih =>
    intro kid buf j h
    obtain ⟨hw, hws⟩ := List.cons.inj h
    rw [List.length_cons, Nat.add_right_comm, fillBuf, stepKid_zero, hw]
    simp only []
    rw [ih (rec kid).p (buf ++ [w]) j hws, List.append_assoc]
    rfl

theorem fillBuf_dry {kid : Pat} (h : (rec kid).out = .stop) (j : Nat) (tail : List Pat) (buf : List Val) :
    fillBuf rec (j + 1) (kid :: tail) buf = (.stop, (rec kid).p :: tail, buf) := by
  rw [fillBuf, stepKid_zero, h]

/-! ### PSubsequence -/

theorem subEmit_same {r : Out × List Pat × List Val} {idx : Int} :
    (subEmit r idx st).kids = r.2.1 ∧ resetSubsequence (subEmit r idx st).st = resetSubsequence st := by
  unfold subEmit; (repeat' split) <;> exact ⟨rfl, rfl⟩

theorem pyIndex_natCast {n i : Nat} (h : i < n) : pyIndex n (i : Int) = some i := by
  simp only [pyIndex, Int.natCast_nonneg, if_true, Int.toNat_natCast, h]

theorem subEmit_val {b : List Val} {j : Nat} {x : Val} (u : Val) (hx : b[j]? = some x) (st : St) :
    subEmit (.val u, kids, b) (j : Int) st = ⟨.val x, kids, { st with buf := b, n0 := st.n0 + 1 }⟩ := by
  simp only [subEmit, pyIndex_natCast (List.getElem?_eq_some_iff.mp hx).1, hx]

theorem subEmit_noVal {r : Out × List Pat × List Val} (h : NoVal r.1) (idx : Int) (st : St) :
    subEmit r idx st = { out := r.1, kids := r.2.1, st := { st with buf := r.2.2 } } := by
  unfold subEmit
  split
  · rename_i x hx; exact absurd hx (h x)
  · rfl

theorem subEmit_stop {r : Out × List Pat × List Val} {idx : Int} (h : (subEmit r idx st).out = .stop) : r.1 = .stop := by
  revert h
  unfold subEmit
  split
  · (repeat' split) <;> nofun
  · exact id

/-- Either `offset` and `length` allow another value and the window is filled up to it, or the call ends early,
    having touched nothing but these two parameters. -/
theorem stepSubsequence_cases (rec : Rec) (kids : List Pat) (st : St) :
    (∃ o, (stepKid rec kids 1).1 = .val (Val.int o) ∧ stepSubsequence rec kids st =
      subEmit (fillBuf rec (st.n0 + o + 1 - st.buf.length).toNat (stepKid rec (stepKid rec kids 1).2 2).2 st.buf)
        (o + st.n0) st) ∨
    (NoVal (stepSubsequence rec kids st).out ∧ (stepSubsequence rec kids st).st = st ∧
      ((stepSubsequence rec kids st).kids = (stepKid rec kids 1).2 ∨
       (stepSubsequence rec kids st).kids = (stepKid rec (stepKid rec kids 1).2 2).2)) := by
  simp only [stepSubsequence]
  split
  · split
    · split
      · exact .inr ⟨noVal_err _, rfl, .inr rfl⟩
      · exact .inr ⟨noVal_stop, rfl, .inr rfl⟩
      · split
        · exact .inl ⟨_, ‹_›, rfl⟩
        · exact .inr ⟨noVal_err _, rfl, .inr rfl⟩
        · exact .inr ⟨noVal_err _, rfl, .inr rfl⟩
    · exact .inr ⟨‹_›, rfl, .inr rfl⟩
  · exact .inr ⟨‹_›, rfl, .inl rfl⟩

theorem stepSubsequence_stepped (rec : Rec) (kids : List Pat) (st : St) :
    Stepped rec kids (stepSubsequence rec kids st).kids ∧
    resetSubsequence (stepSubsequence rec kids st).st = resetSubsequence st := by
  rcases stepSubsequence_cases rec kids st with ⟨o, -, h⟩ | ⟨-, h, h' | h'⟩
  · rw [h, subEmit_same.1, subEmit_same.2]
    exact ⟨(Stepped.refl.step 1 |>.step 2).trans (fillBuf_stepped ..).stepped, rfl⟩
  · simp [h, h']
  · simp [h, h']

/-- With a dead input and a cache too short for `offset`, PSubsequence yields no value and changes nothing. -/
theorem stepSubsequence_starved (hd : DeadAt rec kids 0)
    (hl : ∀ o : Int, (stepKid rec kids 1).1 = .val (Val.int o) → (st.buf.length : Int) < st.n0 + o + 1) :
    NoVal (stepSubsequence rec kids st).out ∧ (stepSubsequence rec kids st).st = st := by
  rcases stepSubsequence_cases rec kids st with ⟨o, ho, he⟩ | ⟨hn, hst, -⟩
  · obtain ⟨f1, f2⟩ := fillBuf_dead (hd.stepped (Stepped.refl.step 1 |>.step 2)) st.buf
      (show (st.n0 + o + 1 - st.buf.length).toNat ≠ 0 by have := hl o ho; omega)
    rw [he, subEmit_noVal f1, f2]
    exact ⟨f1, rfl⟩
  · exact ⟨hn, hst⟩

include hrec in
/-- PSubsequence ends early, having at most read its parameters, or starved: the input is dead and the cache too
    short for `offset`. -/
theorem stepSubsequence_stop (hk : ∀ x ∈ kids, P x) (hs : (stepSubsequence rec kids st).out = .stop) :
    ((stepSubsequence rec kids st).st = st ∧
      ((stepSubsequence rec kids st).kids = (stepKid rec kids 1).2 ∨
       (stepSubsequence rec kids st).kids = (stepKid rec (stepKid rec kids 1).2 2).2)) ∨
    (DeadAt rec (stepSubsequence rec kids st).kids 0 ∧ ∀ o : Int, (stepKid rec kids 1).1 = .val (Val.int o) →
      ((stepSubsequence rec kids st).st.buf.length : Int) < (stepSubsequence rec kids st).st.n0 + o + 1) := by
  rcases stepSubsequence_cases rec kids st with ⟨o, ho, he⟩ | ⟨-, h⟩
  · rw [he] at hs ⊢
    have hf := subEmit_stop hs
    obtain ⟨d1, d2, d3⟩ := fillBuf_stop hrec _ _ st.buf ((Stepped.refl.step 1 |>.step 2).sticky hrec hk) hf
    rw [subEmit_noVal (hf ▸ noVal_stop)]
    refine .inr ⟨d1, fun o' ho' => ?_⟩
    cases ho.symm.trans ho'
    show ((fillBuf rec _ _ st.buf).2.2.length : Int) < st.n0 + o + 1
    omega
  · exact .inl h

/-! ### PCreep -/

theorem stepKidsSeq_stepped (rec : Rec) (kids : List Pat) (is : List Nat) (acc : List Val) :
    Stepped rec kids (stepKidsSeq rec is kids acc).2.1 := by
  induction is generalizing kids acc with
  | nil => exact .refl
  | cons i is ih =>
    simp only [stepKidsSeq]
    split
    · exact (Stepped.refl.step i).trans (ih _ _)
    · exact Stepped.refl.step i

/-- When all listed kids yield a value, each has been read once, in order. -/
theorem stepKidsSeq_val {is : List Nat} {acc : List Val} {x : Val} (h : (stepKidsSeq rec is kids acc).1 = .val x) :
    (stepKidsSeq rec is kids acc).2.1 = is.foldl (fun ks i => (stepKid rec ks i).2) kids := by
  induction is generalizing kids acc with
  | nil => rfl
  | cons i is ih =>
    revert h
    simp only [stepKidsSeq, List.foldl_cons]
    split
    · exact ih
    · rename_i hn; exact fun h => absurd h (hn x)

theorem stepKidsSeq_acc (rec : Rec) (kids : List Pat) (is : List Nat) (acc : List Val) :
    acc <+: (stepKidsSeq rec is kids acc).2.2 := by
  induction is generalizing kids acc with
  | nil => exact List.prefix_rfl
  | cons i is ih =>
    simp only [stepKidsSeq]
    split
    · exact (List.prefix_append acc _).trans (ih ..)
    · exact List.prefix_rfl

theorem stepKidsSeq_head {i : Nat} {is : List Nat} {v : Val} {t : List Val}
    (h : (stepKidsSeq rec (i :: is) kids []).2.2 = v :: t) : (stepKid rec kids i).1 = .val v := by
  revert h
  simp only [stepKidsSeq]
  split
  · rename_i w hw
    intro h
    have := stepKidsSeq_acc rec (stepKid rec kids i).2 is ([] ++ [w])
    rw [h] at this
    exact (List.cons_prefix_cons.mp this).1 ▸ hw
  · nofun

theorem stepKidsSeq_dead {is : List Nat} (acc : List Val) {j : Nat} (hj : j ∈ is) (h : DeadAt rec kids j) :
    NoVal (stepKidsSeq rec is kids acc).1 := by
  induction is generalizing kids acc with
  | nil => exact nomatch hj
  | cons i is ih =>
    simp only [stepKidsSeq]
    split
    · rename_i v hv
      rcases List.mem_cons.mp hj with rfl | hj
      · exact absurd hv (h.step.1 v)
      · exact ih _ hj (h.stepped (Stepped.refl.step i))
    · assumption

include hrec in
theorem stepKidsSeq_stop (is : List Nat) (kids : List Pat) (acc : List Val) (hk : ∀ x ∈ kids, P x)
    (hs : (stepKidsSeq rec is kids acc).1 = .stop) : ∃ j ∈ is, DeadAt rec (stepKidsSeq rec is kids acc).2.1 j := by
  induction is generalizing kids acc with
  | nil => exact nomatch hs
  | cons i is ih =>
    revert hs
    simp only [stepKidsSeq]
    split
    · intro hs
      obtain ⟨j, hj, hd⟩ := ih _ _ (stepKid_P hrec kids i hk) hs
      exact ⟨j, List.mem_cons_of_mem _ hj, hd⟩
    · exact fun hs => ⟨i, List.mem_cons_self, stepKid_stop_dead hrec hk hs⟩

theorem creepLoop_stepped (rec : Rec) (kids : List Pat) (k : Nat) (buf : List Val) :
    SteppedAt rec 0 kids (creepLoop rec k kids buf).2.1 := by
  induction k generalizing kids buf with
  | zero => exact .refl
  | succ k ih =>
    simp only [creepLoop]
    split
    · exact .refl
    · split
      · exact (SteppedAt.refl.kid).trans (ih _ _)
      · exact .kid .refl

theorem creepLoop_vals (rec : Rec) (tail : List Pat) (ws : List Val) :
    ∀ (kid : Pat) (b : List Val), b ≠ [] → recOuts rec ws.length kid = ws.map Out.val →
      creepLoop rec ws.length (kid :: tail) b = (.val Val.none, recAfter rec ws.length kid :: tail, (b ++ ws).drop ws.length) := by
  induction ws with
  | nil => intro kid b _ _; rw [List.append_nil]; rfl
  | cons w ws ih =>
    intro kid b hb hr
    obtain ⟨hw, hws⟩ := List.cons.inj hr
    cases b with
    | nil => exact absurd rfl hb
    | cons x b' =>
      rw [List.length_cons, creepLoop, stepKid_zero, hw]
      simp only []
      rw [ih (rec kid).p (b' ++ [w]) (List.append_ne_nil_of_right_ne_nil _ (List.cons_ne_nil _ _)) hws, List.append_assoc]
      rfl

theorem creepEmit_same {b : List Val} {pos rc : Int} :
    (creepEmit kids b pos rc st).kids = kids ∧ resetCreep (creepEmit kids b pos rc st).st = resetCreep st := by
  unfold creepEmit; (repeat' split) <;> exact ⟨rfl, rfl⟩

/-- `self.pos += 1; return self.buffer[self.pos - 1]`. -/
theorem creepEmit_val {b : List Val} {p : Nat} {x : Val} (hx : b[p]? = some x) (q : Int) (st : St) :
    creepEmit kids b ((p + 1 : Nat) : Int) q st = ⟨.val x, kids, { st with n0 := ((p + 1 : Nat) : Int), n1 := q, buf := b }⟩ := by
  simp only [creepEmit, Int.natCast_succ, Int.add_sub_cancel, pyIndex_natCast (List.getElem?_eq_some_iff.mp hx).1, hx]

theorem creepAfterLoop_same {r : Out × List Pat × List Val} {rep : Bool} :
    (creepAfterLoop r rep st).kids = r.2.1 ∧ resetCreep (creepAfterLoop r rep st).st = resetCreep st := by
  unfold creepAfterLoop; split
  · exact creepEmit_same
  · exact ⟨rfl, rfl⟩

theorem creepMain_stepped {cr : Int} {rp pr : Val} {b : List Val} :
    SteppedAt rec 0 kids (creepMain rec cr rp pr kids b st).kids ∧
    resetCreep (creepMain rec cr rp pr kids b st).st = resetCreep st := by
  unfold creepMain
  split
  · split
    · split
      · exact ⟨.refl, rfl⟩
      · split
        · simpa [creepAfterLoop_same] using creepLoop_stepped ..
        · simp [creepEmit_same]
    · exact ⟨.refl, rfl⟩
  · simp [creepEmit_same]

theorem creepAfterFill_stepped {len cr : Int} {rp pr : Val} {r : Out × List Pat × List Val} :
    SteppedAt rec 0 r.2.1 (creepAfterFill rec len cr rp pr r st).kids ∧
    resetCreep (creepAfterFill rec len cr rp pr r st).st = resetCreep st := by
  unfold creepAfterFill
  split
  · split
    · exact ⟨.refl, rfl⟩
    · exact creepMain_stepped
  · exact ⟨.refl, rfl⟩

include hrec in
theorem creepLoop_stop (k : Nat) (kids : List Pat) (buf : List Val) (hk : ∀ x ∈ kids, P x)
    (hs : (creepLoop rec k kids buf).1 = .stop) :
    DeadAt rec (creepLoop rec k kids buf).2.1 0 ∧ (creepLoop rec k kids buf).2.2.length < buf.length := by
  induction k generalizing kids buf with
  | zero => exact nomatch hs
  | succ k ih =>
    revert hs
    simp only [creepLoop]
    split
    · nofun
    · split
      · intro hs
        obtain ⟨i1, i2⟩ := ih _ _ (stepKid_P hrec kids 0 hk) hs
        simp only [List.length_append, List.length_singleton] at i2
        exact ⟨i1, by simp only [List.length_cons]; omega⟩
      · exact fun hs => ⟨stepKid_stop_dead hrec hk hs, Nat.lt_succ_self _⟩

theorem creepEmit_ne_stop {b : List Val} {pos rc : Int} : (creepEmit kids b pos rc st).out ≠ .stop := by
  unfold creepEmit; (repeat' split) <;> nofun

theorem creepRepeat_ne_stop (pr : Val) : creepRepeat pr ≠ .stop := by
  unfold creepRepeat; (repeat' split) <;> nofun

include hrec in
/-- Once the buffer is full PCreep can only end inside the creep loop: the input is dead and the buffer is left
    shorter. -/
theorem creepMain_stop {cr : Int} {rp pr : Val} {b : List Val} (hk : ∀ x ∈ kids, P x)
    (hs : (creepMain rec cr rp pr kids b st).out = .stop) :
    DeadAt rec (creepMain rec cr rp pr kids b st).kids 0 ∧ (creepMain rec cr rp pr kids b st).st.buf.length < b.length := by
  revert hs
  unfold creepMain creepAfterLoop
  split
  · split
    · split
      · nofun
      · split
        · split
          · exact fun hs => absurd hs creepEmit_ne_stop
          · exact fun hs => creepLoop_stop hrec _ _ _ hk hs
        · exact fun hs => absurd hs creepEmit_ne_stop
    · exact fun hs => absurd hs (creepRepeat_ne_stop _)
  · exact fun hs => absurd hs creepEmit_ne_stop

/-- Either the four parameters resolve (to integers for `length` and `creep`) and the buffer is filled up, or the
    call ends with the resolution `R`.  (`R` is a variable so that the proof can split on it.) -/
theorem stepCreep_cases (rec : Rec) (kids : List Pat) (st : St) {R : Out × List Pat × List Val}
    (hR : stepKidsSeq rec [1, 2, 3, 4] kids [] = R) :
    (∃ x len cr rp pr, R.1 = .val x ∧ (stepKid rec kids 1).1 = .val (Val.int len) ∧
      stepCreep rec kids st = creepAfterFill rec len cr rp pr (fillBuf rec (len - st.buf.length).toNat R.2.1 st.buf) st) ∨
    (NoVal (stepCreep rec kids st).out ∧ (stepCreep rec kids st).st = st ∧ (stepCreep rec kids st).kids = R.2.1 ∧
      ((stepCreep rec kids st).out = .stop → R.1 = .stop)) := by
  simp only [stepCreep, hR]
  split
  · rename_i h1 h2
    exact .inl ⟨_, _, _, _, _, h1, stepKidsSeq_head (hR ▸ h2), rfl⟩
  · exact .inr ⟨noVal_err _, rfl, rfl, nofun⟩
  · exact .inr ⟨‹_›, rfl, rfl, id⟩

/-- Beyond resolving its parameters PCreep touches only its input. -/
theorem stepCreep_input (rec : Rec) (kids : List Pat) (st : St) :
    SteppedAt rec 0 (stepKidsSeq rec [1, 2, 3, 4] kids []).2.1 (stepCreep rec kids st).kids ∧
    resetCreep (stepCreep rec kids st).st = resetCreep st := by
  rcases stepCreep_cases rec kids st rfl with ⟨x, len, cr, rp, pr, -, -, h⟩ | ⟨-, h, h', -⟩
  · rw [h]
    exact ⟨(fillBuf_stepped ..).trans creepAfterFill_stepped.1, creepAfterFill_stepped.2⟩
  · simp [h, h']

theorem stepCreep_stepped (rec : Rec) (kids : List Pat) (st : St) :
    Stepped rec kids (stepCreep rec kids st).kids ∧ resetCreep (stepCreep rec kids st).st = resetCreep st :=
  ⟨(stepKidsSeq_stepped ..).trans (stepCreep_input rec kids st).1.stepped, (stepCreep_input rec kids st).2⟩

theorem stepCreep_dead_param {j : Nat} (hj : j ∈ [1, 2, 3, 4]) (hd : DeadAt rec kids j) : NoVal (stepCreep rec kids st).out := by
  rcases stepCreep_cases rec kids st rfl with ⟨x, _, _, _, _, hx, -, -⟩ | ⟨hn, -⟩
  · exact absurd hx (stepKidsSeq_dead [] hj hd x)
  · exact hn

/-- With a dead input and a buffer shorter than `length`, PCreep fails in the fill loop and changes nothing. -/
theorem stepCreep_starved (hd : DeadAt rec kids 0)
    (hl : ∀ len : Int, (stepKid rec kids 1).1 = .val (Val.int len) → (st.buf.length : Int) < len) :
    NoVal (stepCreep rec kids st).out ∧ (stepCreep rec kids st).st = st := by
  rcases stepCreep_cases rec kids st rfl with ⟨x, len, cr, rp, pr, -, hv, he⟩ | ⟨hn, hst, -⟩
  · obtain ⟨f1, f2⟩ := fillBuf_dead (hd.stepped (stepKidsSeq_stepped ..)) st.buf
      (show (len - st.buf.length).toNat ≠ 0 by have := hl len hv; omega)
    rw [he]
    unfold creepAfterFill
    split
    · rename_i x hx; exact absurd hx (f1 x)
    · exact ⟨‹_›, by rw [f2]⟩
  · exact ⟨hn, hst⟩

include hrec in
/-- PCreep ends when a parameter ends, or when the input ends inside the fill loop or the creep loop, which
    leaves the buffer shorter than `length`. -/
theorem stepCreep_stop (hk : ∀ x ∈ kids, P x) (hs : (stepCreep rec kids st).out = .stop) :
    (∃ j ∈ [1, 2, 3, 4], DeadAt rec (stepCreep rec kids st).kids j) ∨
    (DeadAt rec (stepCreep rec kids st).kids 0 ∧ ∀ len : Int, (stepKid rec kids 1).1 = .val (Val.int len) →
      ((stepCreep rec kids st).st.buf.length : Int) < len) := by
  rcases stepCreep_cases rec kids st rfl with ⟨x, len, cr, rp, pr, -, hv, he⟩ | ⟨-, -, hk', h⟩
  · have hR := (stepKidsSeq_stepped rec kids [1, 2, 3, 4] []).sticky hrec hk
    suffices h : DeadAt rec (stepCreep rec kids st).kids 0 ∧ ((stepCreep rec kids st).st.buf.length : Int) < len from
      .inr ⟨h.1, fun len' hv' => by cases hv.symm.trans hv'; exact h.2⟩
    revert hs
    rw [he]
    unfold creepAfterFill
    split
    · split
      · nofun
      · intro hs
        obtain ⟨d1, d2⟩ := creepMain_stop hrec ((fillBuf_stepped ..).stepped.sticky hrec hR) hs
        rw [List.length_drop] at d2
        exact ⟨d1, by omega⟩
    · intro hs
      obtain ⟨d1, d2, d3⟩ := fillBuf_stop hrec _ _ st.buf hR hs
      exact ⟨d1, by show ((fillBuf rec _ _ st.buf).2.2.length : Int) < len; omega⟩
  · rw [hk']
    exact .inl (stepKidsSeq_stop hrec _ kids [] hk (h hs))

end IsobarV.Pat
