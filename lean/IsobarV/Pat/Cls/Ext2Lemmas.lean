/-
What the step functions of the ext2 group (`Pat/Cls/Ext2.lean`) that are not `stepPoll` instances do to their
kids and to their own state: one fact per function, from which reset-correctness and stickiness follow.
-/
import IsobarV.Pat.Cls.MiscLemmas

namespace IsobarV.Pat

theorem metEmit_spec (kids : List Pat) (st : St) (idx off : Int) :
    (metEmit kids st idx off).kids = kids ∧ (metEmit kids st idx off).out ≠ .stop ∧
    resetMetropolis (metEmit kids st idx off).st = resetMetropolis st := by
  unfold metEmit
  split
  · split
    · split <;> exact ⟨rfl, nofun, rfl⟩
    · exact ⟨rfl, nofun, rfl⟩
  · exact ⟨rfl, nofun, rfl⟩
  · exact ⟨rfl, nofun, rfl⟩

theorem stepMetropolis_spec (rec : Rec) (kids : List Pat) (st : St) :
    (stepMetropolis rec kids st).kids = kids ∧ (stepMetropolis rec kids st).out ≠ .stop ∧
    resetMetropolis (stepMetropolis rec kids st).st = resetMetropolis st := by
  unfold stepMetropolis
  split
  · exact ⟨rfl, nofun, rfl⟩
  · split
    · exact metEmit_spec ..
    · exact ⟨rfl, nofun, rfl⟩
    · exact ⟨rfl, nofun, rfl⟩
    · exact ⟨rfl, nofun, rfl⟩

theorem metCyc_some_length {xs : List Val} {i : Nat} {x : Val} (h : metCyc xs i = some x) : xs.length ≠ 0 := by
  unfold metCyc at h
  split at h
  · cases h
  · assumption

theorem stepMetropolis_eq_emit (rec : Rec) (kids : List Pat) {st : St} {r s : Int}
    (hr : metCyc (metRepeats st) st.n0.toNat = some (.a (.int r))) (hs : metCyc (metRests st) st.n0.toNat = some (.a (.int s))) :
    stepMetropolis rec kids st =
      metEmit kids st (metIndex st.buf.length r s st.n0 st.n1) (metOffset st.buf.length r s st.n0 st.n1) := by
  unfold stepMetropolis
  rw [if_neg fun hc => hc.2.elim (metCyc_some_length hr) (metCyc_some_length hs), hr, hs]

theorem metEmit_note (kids : List Pat) {st : St} {idx : Int} {r : Int} {v : Val} (off : Int)
    (hr : metCyc (metRepeats st) idx.toNat = some (.a (.int r))) (hv : st.buf[idx.toNat]? = some v) :
    metEmit kids st idx off =
      { out := if off < r then .val v else .val Val.none, kids := kids, st := { st with n0 := idx, n1 := off + 1 } } := by
  unfold metEmit
  rw [hr]
  simp only [hv]
  split <;> rfl

theorem stepPga_spec (rec : Rec) (kids : List Pat) (st : St) :
    (stepPga rec kids st).kids = kids ∧ (stepPga rec kids st).out ≠ .stop ∧
    resetPga (stepPga rec kids st).st = resetPga st := by
  unfold stepPga
  by_cases h : st.buf.length = 0 ∨ st.n0 ≤ 0
  · rw [if_pos h]; exact ⟨rfl, nofun, rfl⟩
  · rw [if_neg h]
    cases st.buf[(if st.n0 ≤ st.n2 then 0 else st.n1.toNat)]? with
    | none => exact ⟨rfl, nofun, rfl⟩
    | some v => exact ⟨rfl, nofun, (apply_ite resetPga ..).trans (ite_self _)⟩

theorem funcF_spec (st : St) (vs : List Val) : (funcF st vs).st = st ∧ (funcF st vs).out ≠ .stop := by
  unfold funcF
  split
  · split
    · split <;> exact ⟨rfl, nofun⟩
    · exact ⟨rfl, nofun⟩
  · exact ⟨rfl, nofun⟩
  · exact ⟨rfl, nofun⟩

theorem saAdvance_reset (len : Nat) (st : St) : resetSequenceAction (saAdvance len st) = resetSequenceAction st :=
  (apply_ite resetSequenceAction ..).trans (ite_self _)

/-- The inner sequence steps at most one of the items, never `repeats` (kid 0). -/
theorem saInner_spec (rec : Rec) (kids : List Pat) (st : St) :
    ((saInner rec kids st).kids = kids ∨ ∃ j, (saInner rec kids st).kids = (stepKid rec kids (j + 1)).2) ∧
    resetSequenceAction (saInner rec kids st).st = resetSequenceAction st := by
  unfold saInner
  split
  · exact ⟨.inl rfl, rfl⟩
  · split
    · split
      · exact ⟨.inr ⟨_, rfl⟩, saAdvance_reset ..⟩
      · exact ⟨.inr ⟨_, rfl⟩, rfl⟩
    · exact ⟨.inl rfl, rfl⟩

theorem saInner_stepped (rec : Rec) (kids : List Pat) (st : St) : Stepped rec kids (saInner rec kids st).kids := by
  rcases (saInner_spec rec kids st).1 with h | ⟨j, h⟩
  · exact .of_eq h
  · exact h ▸ Stepped.refl.step (j + 1)

end IsobarV.Pat
