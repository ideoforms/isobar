/-
What the step functions of `IsobarV/Pat/Cls/Seq2.lean` do, for an arbitrary semantics `rec` of the sub-patterns:
to their kids (a `Stepped` fact), to their own state as seen by the class's reset, where a StopIteration comes
from (`StoppedAt`), and what a step returns once a sub-pattern yields no value any more.
`Props/C04_Seq2`, `C09_Seq2` and `C12_Seq2` are corollaries.
-/
import IsobarV.Pat.Sticky

namespace IsobarV.Pat

variable {rec : Rec} {kids : List Pat} {st : St}

theorem collapseLoop_rest (f : Nat) (h : (stepKid rec kids 0).1 = .val (.a .none)) :
    collapseLoop rec (f + 1) kids = collapseLoop rec f (stepKid rec kids 0).2 := by
  simp only [collapseLoop, h]

theorem collapseLoop_pass (f : Nat) (h : (stepKid rec kids 0).1 ≠ .val (.a .none)) :
    collapseLoop rec (f + 1) kids = stepKid rec kids 0 := by
  simp only [collapseLoop]

theorem collapseLoop_last (rec : Rec) (fuel : Nat) (kids : List Pat) : LastStep rec kids 0 (collapseLoop rec fuel kids) := by
  induction fuel generalizing kids with
  | zero => exact ⟨kids, .refl, .inl rfl⟩
  | succ n ih =>
    by_cases h : (stepKid rec kids 0).1 = .val (.a .none)
    · rw [collapseLoop_rest n h]; exact (ih _).after
    · exact ⟨kids, .refl, .inr (collapseLoop_pass n h)⟩

theorem noRepLoop_last (rec : Rec) (prev : Val) (fuel : Nat) (kids : List Pat) :
    LastStep rec kids 0 (noRepLoop rec prev fuel kids) := by
  induction fuel generalizing kids with
  | zero => exact ⟨kids, .refl, .inl rfl⟩
  | succ n ih =>
    simp only [noRepLoop]
    split
    · split
      · exact (ih _).after
      · next h _ => exact ⟨kids, .refl, .inr (by rw [← h])⟩
    · exact ⟨kids, .refl, .inr rfl⟩

theorem drainLoop_stepped (rec : Rec) (fuel : Nat) (kids : List Pat) (acc : List Val) :
    Stepped rec kids (drainLoop rec fuel kids acc).2.1 := by
  induction fuel generalizing kids acc with
  | zero => exact .refl
  | succ n ih =>
    simp only [drainLoop]
    split
    · exact (Stepped.refl.step 0).trans (ih _ _)
    · exact Stepped.refl.step 0

theorem permBlock_spec (rec : Rec) (c : Nat) (kids : List Pat) (acc : List Val) :
    Stepped rec kids (permBlock rec c kids acc).2.1 ∧
    ((permBlock rec c kids acc).1 = Option.none → (permBlock rec c kids acc).2.2.length < acc.length + c →
      StoppedAt rec kids (permBlock rec c kids acc).2.1 0) := by
  induction c generalizing kids acc with
  | zero => exact ⟨.refl, fun _ h => absurd h (by simp [permBlock])⟩
  | succ n ih =>
    have s0 : Stepped rec kids (stepKid rec kids 0).2 := Stepped.refl.step 0
    simp only [permBlock]
    split
    · next v _ =>
      obtain ⟨a, b⟩ := ih (stepKid rec kids 0).2 (v :: acc)
      exact ⟨s0.trans a, fun he hl => (b he (by rw [List.length_cons]; omega)).after s0⟩
    · next h => exact ⟨s0, fun _ _ => .of_step h⟩
    · exact ⟨s0, fun h => nomatch h⟩

theorem pyInt_cases (s : Val) : (∃ k, pyInt s = .val (.a (.int k))) ∨ ∃ e, pyInt s = .err e := by
  unfold pyInt
  split
  · exact .inr ⟨_, rfl⟩
  · exact .inr ⟨_, rfl⟩
  · split
    · exact .inl ⟨_, rfl⟩
    · exact .inr ⟨_, rfl⟩
  · exact .inr ⟨_, rfl⟩

theorem interpSkip_nonzero {s : Val} (f : Nat) (cur : Val) (h : (stepKid rec kids 1).1 = .val s)
    (hz : pyInt s ≠ .val (.a (.int 0))) : interpSkip rec (f + 1) kids cur = (pyInt s, (stepKid rec kids 1).2, cur) := by
  simp only [interpSkip, h]

theorem interpSkip_spec (rec : Rec) (fuel : Nat) (kids : List Pat) (cur : Val) :
    (NoVal (stepKid rec kids 1).1 → NoVal (interpSkip rec fuel kids cur).1) ∧
    Stepped rec kids (interpSkip rec fuel kids cur).2.1 ∧
    (NoVal (interpSkip rec fuel kids cur).1 ∨ ∃ k, (interpSkip rec fuel kids cur).1 = .val (.a (.int k))) ∧
    ((interpSkip rec fuel kids cur).1 = .stop →
      StoppedAt rec kids (interpSkip rec fuel kids cur).2.1 0 ∨ StoppedAt rec kids (interpSkip rec fuel kids cur).2.1 1) := by
  induction fuel generalizing kids cur with
  | zero => exact ⟨fun _ => .of_err rfl, .refl, .inl (.of_err rfl), Out.noConfusion⟩
  | succ n ih =>
    have s1 : Stepped rec kids (stepKid rec kids 1).2 := Stepped.refl.step 1
    simp only [interpSkip]
    split
    · next s hs =>
      refine ⟨fun hn => absurd hs (hn s), ?_⟩
      split
      · split
        · next v _ =>
          obtain ⟨_, a, b, c⟩ := ih (stepKid rec (stepKid rec kids 1).2 0).2 v
          exact ⟨(s1.step 0).trans a, b, fun h => (c h).imp (.after (s1.step 0)) (.after (s1.step 0))⟩
        · next ho => exact ⟨s1.step 0, .inl ho, fun h => .inl (.after s1 (.of_step h))⟩
      · rcases pyInt_cases s with ⟨k, hk⟩ | ⟨e, he⟩
        · exact ⟨s1, .inr ⟨k, hk⟩, fun h => Out.noConfusion (hk.symm.trans h)⟩
        · exact ⟨s1, .inl (.of_err he), fun h => Out.noConfusion (he.symm.trans h)⟩
    · next ho => exact ⟨fun _ => ho, s1, .inl ho, fun h => .inr (.of_step h)⟩

theorem stepReverse_spec (rec : Rec) (kids : List Pat) (st : St) :
    Stepped rec kids (stepReverse rec kids st).kids ∧ resetReverse (stepReverse rec kids st).st = resetReverse st ∧
    ((stepReverse rec kids st).out = .stop → (stepReverse rec kids st).st.n0 ≠ 0 ∧ (stepReverse rec kids st).st.buf = []) := by
  have h := drainLoop_stepped rec LOOPFUEL kids []
  simp only [stepReverse]
  split
  · split
    · split
      · exact ⟨h, rfl, Out.noConfusion⟩
      · exact ⟨h, rfl, fun _ => ⟨Int.one_ne_zero, rfl⟩⟩
    · exact ⟨.refl, rfl, Out.noConfusion⟩
    · exact ⟨h, rfl, Out.noConfusion⟩
  · next h0 =>
    split
    · exact ⟨.refl, rfl, Out.noConfusion⟩
    · next hb => exact ⟨.refl, rfl, fun _ => ⟨h0, hb⟩⟩

theorem stepReverse_drained (rec : Rec) (kids : List Pat) (h0 : st.n0 ≠ 0) (hb : st.buf = []) :
    stepReverse rec kids st = ⟨.stop, kids, st⟩ := by
  simp only [stepReverse, if_neg h0, hb]

theorem stepPad_spec (rec : Rec) (kids : List Pat) (st : St) :
    Stepped rec kids (stepPad rec kids st).kids ∧ resetPad (stepPad rec kids st).st = resetPad st ∧
    ((stepPad rec kids st).out = .stop → (stepKid rec kids 0).1 = .stop ∧ st.n1 ≥ st.n0) := by
  have s0 : Stepped rec kids (stepKid rec kids 0).2 := Stepped.refl.step 0
  simp only [stepPad]
  split
  · exact ⟨s0, rfl, Out.noConfusion⟩
  · next h =>
    split
    · next hc => exact ⟨s0, rfl, fun _ => ⟨h, hc⟩⟩
    · exact ⟨s0, rfl, Out.noConfusion⟩
  · exact ⟨s0, rfl, Out.noConfusion⟩

theorem stepPad_ended (hc : st.n1 ≥ st.n0) (h : NoVal (stepKid rec kids 0).1) :
    stepPad rec kids st = ⟨(stepKid rec kids 0).1, (stepKid rec kids 0).2, st⟩ := by
  simp only [stepPad]
  split
  · next v hv => exact absurd hv (h v)
  · next hs => rw [if_pos hc, hs]
  · next hs => rw [hs]

theorem stepPadToMultiple_spec (rec : Rec) (kids : List Pat) (st : St) :
    Stepped rec kids (stepPadToMultiple rec kids st).kids ∧
    resetPadToMultiple (stepPadToMultiple rec kids st).st = resetPadToMultiple st ∧
    ((stepPadToMultiple rec kids st).out = .stop →
      (stepKid rec kids 0).1 = .stop ∧ st.n3 ≥ st.n1 ∧ st.n0 ≠ 0 ∧ st.n2 % st.n0 = 0) := by
  have s0 : Stepped rec kids (stepKid rec kids 0).2 := Stepped.refl.step 0
  unfold stepPadToMultiple
  cases (stepKid rec kids 0).1 with
  | stop =>
    dsimp only
    by_cases h3 : st.n3 ≥ st.n1
    · by_cases h0 : st.n0 = 0
      · rw [if_pos h3, if_pos h0]; exact ⟨s0, rfl, Out.noConfusion⟩
      · by_cases hm : st.n2 % st.n0 = 0
        · rw [if_pos h3, if_neg h0, if_pos hm]; exact ⟨s0, rfl, fun _ => ⟨rfl, h3, h0, hm⟩⟩
        · rw [if_pos h3, if_neg h0, if_neg hm]; exact ⟨s0, rfl, Out.noConfusion⟩
    · rw [if_neg h3]; exact ⟨s0, rfl, Out.noConfusion⟩
  | _ => exact ⟨s0, rfl, Out.noConfusion⟩

theorem stepPadToMultiple_ended (hc : st.n3 ≥ st.n1 ∧ st.n0 ≠ 0 ∧ st.n2 % st.n0 = 0) (h : NoVal (stepKid rec kids 0).1) :
    stepPadToMultiple rec kids st = ⟨(stepKid rec kids 0).1, (stepKid rec kids 0).2, st⟩ := by
  simp only [stepPadToMultiple]
  split
  · next v hv => exact absurd hv (h v)
  · next hs => rw [if_pos hc.1, if_neg hc.2.1, if_pos hc.2.2, hs]
  · next hs => rw [hs]

theorem stepCounter_spec (rec : Rec) (kids : List Pat) (st : St) :
    Stepped rec kids (stepCounter rec kids st).kids ∧ resetCounter (stepCounter rec kids st).st = resetCounter st ∧
    ((stepCounter rec kids st).out = .stop → (stepKid rec kids 0).1 = .stop) := by
  have s0 : Stepped rec kids (stepKid rec kids 0).2 := Stepped.refl.step 0
  simp only [stepCounter]
  split
  · split
    · split <;> exact ⟨s0, rfl, Out.noConfusion⟩
    · exact ⟨s0, rfl, Out.noConfusion⟩
    · exact ⟨s0, rfl, Out.noConfusion⟩
  · exact ⟨s0, rfl, id⟩

theorem stepCounter_ended (st : St) (h : NoVal (stepKid rec kids 0).1) :
    stepCounter rec kids st = ⟨(stepKid rec kids 0).1, (stepKid rec kids 0).2, st⟩ := by
  simp only [stepCounter]
  split
  · next v hv => exact absurd hv (h v)
  · rfl

theorem stepResetW_noVal (rs : Pat → Pat) (st : St) (h : NoVal (stepKid rec kids 1).1) :
    stepResetW rs rec kids st = ⟨(stepKid rec kids 1).1, (stepKid rec kids 1).2, st⟩ := by
  simp only [stepResetW]
  split
  · next t ht => exact absurd ht (h t)
  · rfl

theorem stepResetW_val (rs : Pat → Pat) {t : Val} (st : St) (h : (stepKid rec kids 1).1 = .val t) :
    stepResetW rs rec kids st =
      match trigPos t with
      | some true =>
        ⟨(stepKid rec (resetKid rs (stepKid rec kids 1).2 0) 0).1, (stepKid rec (resetKid rs (stepKid rec kids 1).2 0) 0).2, st⟩
      | some false => ⟨(stepKid rec (stepKid rec kids 1).2 0).1, (stepKid rec (stepKid rec kids 1).2 0).2, st⟩
      | Option.none => ⟨.err .typeError, (stepKid rec kids 1).2, st⟩ := by
  simp only [stepResetW, h]
  rfl

theorem stepNoRepeats_spec (rec : Rec) (kids : List Pat) (st : St) :
    LastStep rec kids 0 ((stepNoRepeats rec kids st).out, (stepNoRepeats rec kids st).kids) ∧
    resetNoRepeats (stepNoRepeats rec kids st).st = resetNoRepeats st := by
  have hl := noRepLoop_last rec st.v0 LOOPFUEL kids
  simp only [stepNoRepeats]
  split
  · next h => rw [← h]; exact ⟨hl, rfl⟩
  · exact ⟨hl, rfl⟩

theorem permEmit_spec (kids : List Pat) (st : St) :
    (permEmit kids st).kids = kids ∧ resetPermut (permEmit kids st).st = resetPermut st := by
  simp only [permEmit]
  split
  · exact ⟨rfl, rfl⟩
  · split <;> exact ⟨rfl, rfl⟩

theorem stepPermut_next (rec : Rec) (kids : List Pat) (h : ¬ st.n1 > permCount st) (h2 : st.n2 ≥ st.buf.length) :
    stepPermut rec kids st = permEmit kids { st with n1 := st.n1 + 1, n2 := 0 } := by
  simp only [stepPermut, if_neg h, if_pos h2]

theorem stepPermut_emit (rec : Rec) (kids : List Pat) (h : ¬ st.n1 > permCount st) (h2 : ¬ st.n2 ≥ st.buf.length) :
    stepPermut rec kids st = permEmit kids st := by
  simp only [stepPermut, if_neg h, if_neg h2]

theorem stepPermut_stepped (rec : Rec) (kids : List Pat) (st : St) :
    Stepped rec kids (stepPermut rec kids st).kids ∧ resetPermut (stepPermut rec kids st).st = resetPermut st := by
  have hb := (permBlock_spec rec st.n0.toNat kids []).1
  by_cases h : st.n1 > permCount st
  · simp only [stepPermut, if_pos h]
    split
    · exact ⟨hb, rfl⟩
    · split
      · exact ⟨hb, rfl⟩
      · rw [(permEmit_spec _ _).1, (permEmit_spec _ _).2]; exact ⟨hb, rfl⟩
  · by_cases h2 : st.n2 ≥ st.buf.length
    · rw [stepPermut_next rec kids h h2, (permEmit_spec _ _).1, (permEmit_spec _ _).2]; exact ⟨.refl, rfl⟩
    · rw [stepPermut_emit rec kids h h2, (permEmit_spec _ _).1, (permEmit_spec _ _).2]; exact ⟨.refl, rfl⟩

theorem interpValues_ne_stop (mode : Int) (cur target : Val) (k : Int) : (interpValues mode cur target k).1 ≠ .stop := by
  unfold interpValues
  by_cases h0 : mode = 0
  · rw [if_pos h0]; exact Out.noConfusion
  rw [if_neg h0]
  by_cases h1 : mode = 1
  · rw [if_pos h1]
    split
    · split <;> exact Out.noConfusion
    · exact Out.noConfusion
  · rw [if_neg h1]; split <;> exact Out.noConfusion

theorem interpEmit_spec (kids : List Pat) (st : St) (cur : Val) (sv : List Val) :
    (interpEmit kids st cur sv).kids = kids ∧ resetInterpolate (interpEmit kids st cur sv).st = resetInterpolate st ∧
    (interpEmit kids st cur sv).out ≠ .stop := by
  cases sv <;> exact ⟨rfl, rfl, Out.noConfusion⟩

theorem stepInterpolate_init (h : st.n1 = 0) :
    (stepInterpolate rec kids st).kids = (stepKid rec kids 0).2 ∧
    resetInterpolate (stepInterpolate rec kids st).st = resetInterpolate st ∧
    (stepInterpolate rec kids st).out = (stepKid rec kids 0).1 ∧
    (NoVal (stepKid rec kids 0).1 → (stepInterpolate rec kids st).st = st) := by
  simp only [stepInterpolate, if_pos h]
  split
  · next v hv => exact ⟨rfl, rfl, hv.symm, fun hn => absurd hv (hn v)⟩
  · exact ⟨rfl, rfl, rfl, fun _ => rfl⟩

theorem stepInterpolate_within (rec : Rec) (kids : List Pat) (h1 : st.n1 ≠ 0) (h2 : st.n2 ≠ st.buf.length) :
    (stepInterpolate rec kids st).kids = kids ∧ resetInterpolate (stepInterpolate rec kids st).st = resetInterpolate st ∧
    (stepInterpolate rec kids st).out ≠ .stop := by
  simp only [stepInterpolate, if_neg h1, if_neg h2]
  split <;> exact ⟨rfl, rfl, Out.noConfusion⟩

/-! At a block boundary: `S` is what the `while vsteps == 0` loop returns, `T` the step of the input after it. -/
section Boundary

variable {S : Out × List Pat × Val} {T : Out × List Pat} (h1 : st.n1 ≠ 0) (h2 : st.n2 = st.buf.length)
  (hS : interpSkip rec LOOPFUEL kids st.v0 = S)
include h1 h2 hS

theorem stepInterpolate_skip_ended (hn : NoVal S.1) : stepInterpolate rec kids st = ⟨S.1, S.2.1, { st with v0 := S.2.2 }⟩ := by
  subst hS
  simp only [stepInterpolate, if_neg h1, if_pos h2]
  split
  · next hk => exact absurd hk (hn _)
  · next hk => exact absurd hk (hn _)
  · rfl

variable {k : Int} (hT : stepKid rec S.2.1 0 = T) (hk : S.1 = .val (.a (.int k)))
include hT hk

theorem stepInterpolate_target_ended (hn : NoVal T.1) : stepInterpolate rec kids st = ⟨T.1, T.2, { st with v0 := S.2.2 }⟩ := by
  subst hS hT
  simp only [stepInterpolate, if_neg h1, if_pos h2, hk]
  split
  · next t ht => exact absurd ht (hn t)
  · rfl

theorem stepInterpolate_block {target : Val} (ht : T.1 = .val target) :
    (stepInterpolate rec kids st).kids = T.2 ∧ resetInterpolate (stepInterpolate rec kids st).st = resetInterpolate st ∧
    (stepInterpolate rec kids st).out ≠ .stop := by
  subst hS hT
  simp only [stepInterpolate, if_neg h1, if_pos h2, hk, ht]
  split
  · exact interpEmit_spec _ _ _ _
  · exact ⟨rfl, rfl, interpValues_ne_stop _ _ _ _⟩

end Boundary

theorem stepInterpolate_spec (rec : Rec) (kids : List Pat) (st : St) :
    Stepped rec kids (stepInterpolate rec kids st).kids ∧
    resetInterpolate (stepInterpolate rec kids st).st = resetInterpolate st ∧
    ((stepInterpolate rec kids st).out = .stop →
      (∃ v, (stepInterpolate rec kids st).st = { st with v0 := v }) ∧ (st.n1 ≠ 0 → st.n2 = st.buf.length) ∧
      (StoppedAt rec kids (stepInterpolate rec kids st).kids 0 ∨
        st.n1 ≠ 0 ∧ StoppedAt rec kids (stepInterpolate rec kids st).kids 1)) := by
  by_cases h1 : st.n1 = 0
  · obtain ⟨a, b, c, d⟩ := stepInterpolate_init (rec := rec) (kids := kids) h1
    rw [a, c]
    exact ⟨Stepped.refl.step 0, b, fun hs => ⟨⟨st.v0, d (.of_stop hs)⟩, fun h => absurd h1 h, .inl (.of_step hs)⟩⟩
  by_cases h2 : st.n2 = st.buf.length
  · obtain ⟨_, hS, hout, hstop⟩ := interpSkip_spec rec LOOPFUEL kids st.v0
    rcases hout with hn | ⟨k, hk⟩
    · rw [stepInterpolate_skip_ended h1 h2 rfl hn]
      exact ⟨hS, rfl, fun hs => ⟨⟨_, rfl⟩, fun _ => h2, (hstop hs).imp_right (⟨h1, ·⟩)⟩⟩
    · rcases Out.val_or_noVal (stepKid rec (interpSkip rec LOOPFUEL kids st.v0).2.1 0).1 with ⟨target, ht⟩ | hn
      · obtain ⟨a, b, c⟩ := stepInterpolate_block h1 h2 rfl rfl hk ht
        exact ⟨a ▸ hS.step 0, b, fun hs => absurd hs c⟩
      · rw [stepInterpolate_target_ended h1 h2 rfl rfl hk hn]
        exact ⟨hS.step 0, rfl, fun hs => ⟨⟨_, rfl⟩, fun _ => h2, .inl (.after hS (.of_step hs))⟩⟩
  · obtain ⟨a, b, c⟩ := stepInterpolate_within rec kids h1 h2
    exact ⟨a.symm ▸ .refl, b, fun hs => absurd hs c⟩

theorem euclidEmit_spec (kids : List Pat) (st : St) (seq : List Bool) :
    (euclidEmit kids st seq).kids = kids ∧ resetEuclidean (euclidEmit kids st seq).st = resetEuclidean st ∧
    (euclidEmit kids st seq).out ≠ .stop := by
  simp only [euclidEmit]
  split
  · split <;> exact ⟨rfl, rfl, Out.noConfusion⟩
  · exact ⟨rfl, rfl, Out.noConfusion⟩

theorem stepEuclidean_length_ended (st : St) (h : NoVal (stepKid rec kids 1).1) :
    stepEuclidean rec kids st = ⟨(stepKid rec kids 1).1, (stepKid rec kids 1).2, st⟩ := by
  simp only [stepEuclidean]
  split
  · next lv hl => exact absurd hl (h lv)
  · rfl

theorem stepEuclidean_vals {lv mv : Val} (st : St) (h1 : (stepKid rec kids 1).1 = .val lv)
    (h0 : (stepKid rec (stepKid rec kids 1).2 0).1 = .val mv) :
    stepEuclidean rec kids st =
      match euclidSeq lv mv with
      | some seq => euclidEmit (stepKid rec (stepKid rec kids 1).2 0).2 st seq
      | Option.none => ⟨.err .typeError, (stepKid rec (stepKid rec kids 1).2 0).2, st⟩ := by
  simp only [stepEuclidean, h1, h0]
  rfl

theorem stepEuclidean_spec (rec : Rec) (kids : List Pat) (st : St) :
    Stepped rec kids (stepEuclidean rec kids st).kids ∧ resetEuclidean (stepEuclidean rec kids st).st = resetEuclidean st ∧
    ((stepEuclidean rec kids st).out = .stop →
      StoppedAt rec kids (stepEuclidean rec kids st).kids 1 ∨ StoppedAt rec kids (stepEuclidean rec kids st).kids 0) ∧
    (NoVal (stepKid rec kids 1).1 ∨ NoVal (stepKid rec (stepKid rec kids 1).2 0).1 → NoVal (stepEuclidean rec kids st).out) := by
  have s1 : Stepped rec kids (stepKid rec kids 1).2 := Stepped.refl.step 1
  simp only [stepEuclidean]
  split
  · next lv hl =>
    split
    · next mv hm =>
      have hv : ¬ (NoVal (stepKid rec kids 1).1 ∨ NoVal (stepKid rec (stepKid rec kids 1).2 0).1) :=
        fun h => h.elim (· lv hl) (· mv hm)
      split
      · rw [(euclidEmit_spec _ _ _).1, (euclidEmit_spec _ _ _).2.1]
        exact ⟨s1.step 0, rfl, fun h => absurd h (euclidEmit_spec _ _ _).2.2, fun h => absurd h hv⟩
      · exact ⟨s1.step 0, rfl, Out.noConfusion, fun h => absurd h hv⟩
    · next ho => exact ⟨s1.step 0, rfl, fun h => .inr (.after s1 (.of_step h)), fun _ => ho⟩
  · next ho => exact ⟨s1, rfl, fun h => .inl (.of_step h), fun _ => ho⟩

theorem stepArpeggiator_spec (rec : Rec) (kids : List Pat) (st : St) :
    (stepArpeggiator rec kids st).kids = kids ∧
    resetArpeggiator (stepArpeggiator rec kids st).st = resetArpeggiator st ∧
    ((stepArpeggiator rec kids st).out = .stop → (stepArpeggiator rec kids st).st = st) := by
  unfold stepArpeggiator
  by_cases hb : st.buf.length = 0
  · rw [if_pos hb]; exact ⟨rfl, rfl, Out.noConfusion⟩
  rw [if_neg hb]
  cases arpOffsets st.n0 st.buf.length (st.n1 != 0) with
  | none => exact ⟨rfl, rfl, Out.noConfusion⟩
  | some offs =>
    dsimp only
    by_cases h1 : 0 ≤ st.n2 ∧ st.n2 < offs.length ∧ (st.n2 < st.buf.length ∨ st.n0 > 5)
    · rw [if_pos h1]
      cases arpNote (sortNotes st.buf) offs st.n2.toNat <;> exact ⟨rfl, rfl, Out.noConfusion⟩
    rw [if_neg h1]
    by_cases h2 : (st.n1 != 0) = true
    · rw [if_pos h2]
      cases arpNote (sortNotes st.buf) offs 0 <;> exact ⟨rfl, rfl, Out.noConfusion⟩
    · rw [if_neg h2]; exact ⟨rfl, rfl, fun _ => rfl⟩

end IsobarV.Pat
