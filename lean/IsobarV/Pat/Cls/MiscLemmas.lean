/-
What the step functions of the misc group (`Pat/Cls/Misc.lean`) do to their kids and to their own state, and
`stepDictKey` case by case: the facts from which reset-correctness, stickiness and the reference theorems start.
-/
import IsobarV.Pat.Sticky

namespace IsobarV.Pat

theorem lsysTokens_lsysSt (st : St) (r : LsysRes) : lsysTokens (lsysSt st r) = lsysTokens st := rfl

theorem lsysSt_n2 (st : St) (r : LsysRes) : (lsysSt st r).n2.toNat = r.pos := Int.toNat_natCast _

theorem stepLsystem_kids (rec : Rec) (kids : List Pat) (st : St) : (stepLsystem rec kids st).kids = kids := by
  simp only [stepLsystem]; split <;> rfl

theorem stepLsystem_reset (rec : Rec) (kids : List Pat) (st : St) :
    resetLsystem (stepLsystem rec kids st).st = resetLsystem st := by
  simp only [stepLsystem]; split <;> rfl

/-- A step is one scan of the rest of the string from some position: `pos`, or 0 after a restart. -/
theorem stepLsystem_scan (rec : Rec) (kids : List Pat) (st : St) : ∃ p s stk, stepLsystem rec kids st =
    { out := (lsysScan ((lsysTokens st).drop p) p s stk).out, kids := kids,
      st := lsysSt st (lsysScan ((lsysTokens st).drop p) p s stk) } := by
  unfold stepLsystem
  split
  · exact ⟨0, 0, [], rfl⟩
  · exact ⟨_, _, _, rfl⟩

/-- At the end of the string a step is StopIteration and stays at the end (also with `loop=True`: the flag only
    reacts to rest tokens). -/
theorem stepLsystem_ended (rec : Rec) (kids : List Pat) {st : St} (h : (lsysTokens st).length ≤ st.n2.toNat) :
    (stepLsystem rec kids st).out = .stop ∧
    (lsysTokens (stepLsystem rec kids st).st).length ≤ (stepLsystem rec kids st).st.n2.toNat := by
  have hf : lsysFirst st = { out := .stop, pos := st.n2.toNat, state := st.n3, stack := st.buf } := by
    unfold lsysFirst; rw [List.drop_eq_nil_of_le h]; rfl
  have hcnd : ¬ ((lsysFirst st).out = .val Val.none ∧ st.n1 ≠ 0) := by rw [hf]; exact fun hc => nomatch hc.1
  simp only [stepLsystem, if_neg hcnd]
  rw [hf]
  exact ⟨rfl, h⟩

theorem stepAll_stepped (rec : Rec) (kids : List Pat) : Stepped rec kids (stepAll rec kids).kids := by
  induction kids with
  | nil => exact .refl
  | cons k ks ih =>
    simp only [stepAll]
    split
    · exact (Stepped.head k ks).trans (ih.cons _)
    · exact .head k ks
    · exact .head k ks

theorem stepAll_fail_noVal (rec : Rec) (kids : List Pat) (o : Out) (h : (stepAll rec kids).fail = some o) : NoVal o := by
  induction kids with
  | nil => cases h
  | cons k ks ih =>
    simp only [stepAll] at h
    split at h
    · exact ih h
    · cases h; nofun
    · next h1 h2 => cases h; exact .of_ne h1 h2

theorem stepTuple_stepped (rec : Rec) (kids : List Pat) (st : St) :
    Stepped rec kids (stepTuple rec kids st).kids ∧ (stepTuple rec kids st).st = st := by
  simp only [stepTuple]
  split <;> exact ⟨stepAll_stepped rec kids, rfl⟩

theorem stepTuple_kids (rec : Rec) (kids : List Pat) (st : St) :
    (stepTuple rec kids st).kids = (stepAll rec kids).kids := by
  simp only [stepTuple]; split <;> rfl

theorem stepDictKey_stepped (rec : Rec) (kids : List Pat) (st : St) :
    Stepped rec kids (stepDictKey rec kids st).kids ∧ (stepDictKey rec kids st).st = st := by
  unfold stepDictKey
  by_cases h0 : st.n0 = 0
  · rw [if_pos h0]
    split
    · split
      · split <;> simp
      · simp
    · simp
  · rw [if_neg h0]
    split
    · split <;> simp
    · simp
    · simp

theorem stepDictKey_dict_fail {rec : Rec} {kids : List Pat} {st : St} (h0 : st.n0 = 0) (h : NoVal (stepKid rec kids 1).1) :
    stepDictKey rec kids st = { out := (stepKid rec kids 1).1, kids := (stepKid rec kids 1).2, st := st } := by
  simp only [stepDictKey, if_pos h0]
  split
  · next d hd => exact absurd hd (h d)
  · rfl

theorem stepDictKey_key_fail {rec : Rec} {kids : List Pat} {st : St} {d : Val} (h0 : st.n0 = 0)
    (hd : (stepKid rec kids 1).1 = .val d) (h : NoVal (stepKid rec (stepKid rec kids 1).2 0).1) :
    stepDictKey rec kids st =
      { out := (stepKid rec (stepKid rec kids 1).2 0).1, kids := (stepKid rec (stepKid rec kids 1).2 0).2, st := st } := by
  simp only [stepDictKey, if_pos h0, hd]
  split
  · next key hkey => exact absurd hkey (h key)
  · rfl

theorem stepDictKey_vals {rec : Rec} {kids : List Pat} {st : St} {d key : Val} (h0 : st.n0 = 0)
    (hd : (stepKid rec kids 1).1 = .val d) (hk : (stepKid rec (stepKid rec kids 1).2 0).1 = .val key) :
    stepDictKey rec kids st =
      { out := match d with
          | .tup xs => dictLookup st.buf xs key
          | .a _ => .err .typeError,
        kids := (stepKid rec (stepKid rec kids 1).2 0).2, st := st } := by
  simp only [stepDictKey, if_pos h0, hd, hk]
  cases d <;> rfl

theorem stepDictKey_plain_key_fail {rec : Rec} {kids : List Pat} {st : St} (h1 : st.n0 ≠ 0) (h : NoVal (stepKid rec kids 0).1) :
    stepDictKey rec kids st = { out := (stepKid rec kids 0).1, kids := (stepKid rec kids 0).2, st := st } := by
  simp only [stepDictKey, if_neg h1]
  split
  · next k hk => exact absurd hk (h _)
  · next xs hk => exact absurd hk (h _)
  · rfl

end IsobarV.Pat
