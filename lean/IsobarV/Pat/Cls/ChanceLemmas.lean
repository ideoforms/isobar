/-
Characterising lemmas of the stochastic classes (`Pat/Cls/Chance.lean`), shared by the property files:
which kids a step steps (`Stepped`), which registers it writes, and whether it can end the pattern by itself.
-/
import IsobarV.Pat.Sticky
import IsobarV.Pat.Cls.Chance

namespace IsobarV.Pat

/- A draw moves the cursor of the tape and changes nothing else. -/

theorem drawU_cur {s s' : St} {o : Option Rat} (h : s.drawU = (o, s')) : ∃ c, s' = { s with cur := c } := by
  unfold St.drawU at h
  split at h <;> (cases h; exact ⟨_, rfl⟩)

theorem drawB_cur {s s' : St} {n : Nat} {o : Option Nat} (h : s.drawB n = (o, s')) : ∃ c, s' = { s with cur := c } := by
  unfold St.drawB at h
  split at h
  · split at h <;> (cases h; exact ⟨_, rfl⟩)
  · cases h; exact ⟨_, rfl⟩

theorem shuffleLoop_cur {α : Type} {i : Nat} {xs ys : List α} {st st' : St} (h : shuffleLoop i xs st = some (ys, st')) :
    ∃ c, st' = { st with cur := c } := by
  induction i generalizing xs st with
  | zero => cases h; exact ⟨_, rfl⟩
  | succ i ih =>
    simp only [shuffleLoop] at h
    split at h
    · rename_i hd
      obtain ⟨_, rfl⟩ := drawB_cur hd
      exact (ih h :)
    · cases h

theorem genBits_cur {n : Nat} {p : Rat} {st st' : St} {bs : List Val} (h : genBits n p st = some (bs, st')) :
    ∃ c, st' = { st with cur := c } := by
  induction n generalizing st bs with
  | zero => cases h; exact ⟨_, rfl⟩
  | succ n ih =>
    simp only [genBits] at h
    split at h
    · rename_i hd
      obtain ⟨_, rfl⟩ := drawU_cur hd
      split at h
      · rename_i hg
        cases h
        exact (ih hg :)
      · cases h
    · cases h

theorem resolve_bad {rec : Rec} {i : Nat} {is : List Nat} {kids : List Pat} {o : Out} (h : (stepKid rec kids i).1 = o)
    (hno : NoVal o) : resolve rec (i :: is) kids = { vals := [], bad := some o, kids := (stepKid rec kids i).2 } := by
  simp only [resolve, h]
  split
  · exact absurd rfl (hno _)
  · rfl

theorem resolve_stepped (rec : Rec) (idx : List Nat) (kids : List Pat) : Stepped rec kids (resolve rec idx kids).kids := by
  induction idx generalizing kids with
  | nil => exact .refl
  | cons i is ih =>
    simp only [resolve]
    split
    · exact (Stepped.refl.step i).trans (ih _)
    · exact Stepped.refl.step i

theorem stepPure_kids (idx : List Nat) (core : List Val → St → Out × St) (rec : Rec) (kids : List Pat) (st : St) :
    (stepPure idx core rec kids st).kids = (resolve rec idx kids).kids := by
  simp only [stepPure]; split <;> rfl

theorem stepPure_stepped (idx : List Nat) (core : List Val → St → Out × St) (rec : Rec) (kids : List Pat) (st : St) :
    Stepped rec kids (stepPure idx core rec kids st).kids ∧
    ((stepPure idx core rec kids st).st = st ∨ ∃ vals, (stepPure idx core rec kids st).st = (core vals st).2) := by
  rw [stepPure_kids]
  refine ⟨resolve_stepped rec idx kids, ?_⟩
  simp only [stepPure]
  split
  · exact .inl rfl
  · exact .inr ⟨_, rfl⟩

/- The cores.  Each proof goes by cases along the definition of the core.  In a case after a draw the new state is the
old one with another cursor (`drawU_cur`, `drawB_cur`); every case then holds by computation, or by the lemma of the
part of the core it ends in. -/

/-- `s` is `st` up to the tape cursor and the registers that `w`, the class's own reset, overwrites. -/
def Wrote (w : St → St) (st s : St) : Prop := ∃ c, w s = { w st with cur := c }

/-- A result of (a part of) a core run from `st` that is not StopIteration and wrote only what `Wrote` allows. -/
def Quiet (w : St → St) (st : St) (r : Out × St) : Prop := r.1 ≠ .stop ∧ Wrote w st r.2

/-- A change that `Wrote w` allows is invisible to the reset of a class whose own reset is `w` and a rewound cursor. -/
theorem Wrote.clsReset {w : St → St} {st s : St} (h : Wrote w st s) {c : Cls}
    (hc : ∀ s, clsReset c s = { w s with cur := 0 }) : clsReset c s = clsReset c st := by
  obtain ⟨k, h⟩ := h
  rw [hc, hc, h]

theorem whiteCore_wrote (vals : List Val) (st : St) : Wrote resetWhite st (whiteCore vals st).2 := by
  fun_cases whiteCore vals st
  case case3 | case4 => obtain ⟨_, rfl⟩ := drawU_cur ‹_›; exact ⟨_, rfl⟩
  all_goals exact ⟨_, rfl⟩

theorem brownFinish_quiet (d : Rat) (f : Bool) (lo hi : Atom) (st : St) (c : Nat) :
    Quiet resetBrown st (brownFinish d f lo hi st { st with cur := c }) := by
  fun_cases brownFinish d f lo hi st { st with cur := c }
  all_goals exact ⟨Out.noConfusion, _, rfl⟩

theorem brownCore_quiet (vals : List Val) (st : St) : Quiet resetBrown st (brownCore vals st) := by
  -- in the cases of an int `step`, `fun_cases` leaves `match stp.toInt?` in the goal: the case's hypotheses reduce it
  fun_cases brownCore vals st
  case case1 => obtain ⟨_, rfl⟩ := drawU_cur ‹_›; exact brownFinish_quiet ..
  case case3 hs hn _ => simp only [hs, if_pos hn]; exact ⟨Out.noConfusion, _, rfl⟩
  case case4 hs hn _ _ hd _ =>
    obtain ⟨_, rfl⟩ := drawB_cur hd
    simp only [hs, if_neg hn, hd]
    exact brownFinish_quiet ..
  case case5 hs hn _ hd _ => simp only [hs, if_neg hn, hd]; exact ⟨Out.noConfusion, _, rfl⟩
  case case6 hs _ => simp only [hs]; exact ⟨Out.noConfusion, _, rfl⟩
  all_goals exact ⟨Out.noConfusion, _, rfl⟩

theorem coinCore_quiet (vals : List Val) (st : St) : Quiet resetCoin st (coinCore vals st) := by
  fun_cases coinCore vals st
  case case4 | case5 | case6 => obtain ⟨_, rfl⟩ := drawU_cur ‹_›; exact ⟨Out.noConfusion, _, rfl⟩
  all_goals exact ⟨Out.noConfusion, _, rfl⟩

theorem walkFinish_quiet (xs : List Atom) (pos : Int) (st : St) (c : Nat) :
    Quiet resetWalk st (walkFinish xs pos { st with cur := c }) := by
  fun_cases walkFinish xs pos { st with cur := c }
  all_goals exact ⟨Out.noConfusion, _, rfl⟩

theorem walkCore_quiet (vals : List Val) (st : St) : Quiet resetWalk st (walkCore vals st) := by
  fun_cases walkCore vals st
  case case2 =>
    obtain ⟨_, rfl⟩ := drawB_cur ‹_›
    obtain ⟨_, rfl⟩ := drawU_cur ‹_›
    exact walkFinish_quiet ..
  all_goals exact ⟨Out.noConfusion, _, rfl⟩

theorem choiceCore_quiet (vals : List Val) (st : St) : Quiet id st (choiceCore vals st) := by
  fun_cases choiceCore vals st
  case case2 => obtain ⟨_, rfl⟩ := drawB_cur ‹_›; exact ⟨Out.noConfusion, _, rfl⟩
  case case5 | case6 | case7 => obtain ⟨_, rfl⟩ := drawU_cur ‹_›; exact ⟨Out.noConfusion, _, rfl⟩
  all_goals exact ⟨Out.noConfusion, _, rfl⟩

theorem sampleLoop_quiet (n : Nat) (xs : List Atom) (ws : List Rat) (acc : List Atom) (st : St) :
    Quiet id st (sampleLoop n xs ws acc st) := by
  fun_induction sampleLoop n xs ws acc st
  case case3 ih => obtain ⟨_, rfl⟩ := drawB_cur ‹_›; exact ih
  case case6 ih => obtain ⟨_, rfl⟩ := drawU_cur ‹_›; exact ih
  case case7 | case8 => obtain ⟨_, rfl⟩ := drawU_cur ‹_›; exact ⟨Out.noConfusion, _, rfl⟩
  all_goals exact ⟨Out.noConfusion, _, rfl⟩

theorem sampleCore_quiet (vals : List Val) (st : St) : Quiet id st (sampleCore vals st) := by
  fun_cases sampleCore vals st
  case case2 | case5 => exact sampleLoop_quiet ..
  all_goals exact ⟨Out.noConfusion, _, rfl⟩

theorem shuffleEmit_wrote (rep : Atom) (vs : List Val) (old st : St) (c : Nat) :
    Wrote resetShuffle st (shuffleEmit rep vs old { st with cur := c }).2 := by
  fun_cases shuffleEmit rep vs old { st with cur := c }
  all_goals exact ⟨_, rfl⟩

theorem shuffleCore_wrote (vals : List Val) (st : St) : Wrote resetShuffle st (shuffleCore vals st).2 := by
  fun_cases shuffleCore vals st
  case case1 h => obtain ⟨_, rfl⟩ := shuffleLoop_cur h; exact shuffleEmit_wrote ..
  case case3 => exact shuffleEmit_wrote _ _ _ st st.cur
  all_goals exact ⟨_, rfl⟩

theorem skipCore_quiet (vals : List Val) (st : St) : Quiet resetSkip st (skipCore vals st) := by
  fun_cases skipCore vals st
  case case4 | case5 | case6 => obtain ⟨_, rfl⟩ := drawU_cur ‹_›; exact ⟨Out.noConfusion, _, rfl⟩
  all_goals exact ⟨Out.noConfusion, _, rfl⟩

theorem flipFlopCore_quiet (vals : List Val) (st : St) : Quiet resetFlipFlop st (flipFlopCore vals st) := by
  fun_cases flipFlopCore vals st
  case case7 | case8 => exact ⟨Out.noConfusion, _, rfl⟩
  all_goals obtain ⟨_, rfl⟩ := drawU_cur ‹_›; exact ⟨Out.noConfusion, _, rfl⟩

theorem expCore_quiet (vals : List Val) (st : St) : Quiet id st (expCore vals st) := by
  fun_cases expCore vals st
  case case1 | case2 | case3 | case4 => obtain ⟨_, rfl⟩ := drawU_cur ‹_›; exact ⟨Out.noConfusion, _, rfl⟩
  all_goals exact ⟨Out.noConfusion, _, rfl⟩

theorem markovMove_wrote (node : Val) (st : St) (c : Nat) :
    Wrote resetMarkov st (markovMove node { st with cur := c }).2 := by
  fun_cases markovMove node { st with cur := c }
  case case2 => obtain ⟨_, rfl⟩ := drawB_cur ‹_›; exact ⟨_, rfl⟩
  all_goals exact ⟨_, rfl⟩

theorem markovCore_wrote (vals : List Val) (st : St) : Wrote resetMarkov st (markovCore vals st).2 := by
  fun_cases markovCore vals st
  case case1 => obtain ⟨_, rfl⟩ := drawB_cur ‹_›; exact markovMove_wrote ..
  case case4 => exact markovMove_wrote _ st st.cur
  all_goals exact ⟨_, rfl⟩

theorem switchCore_wrote (st : St) : Wrote resetSwitchOne st (switchCore st).2 := by
  fun_cases switchCore st
  case case1 | case2 => obtain ⟨_, rfl⟩ := drawB_cur ‹_›; exact ⟨_, rfl⟩
  all_goals exact ⟨_, rfl⟩

theorem shuffleInputEmit_wrote (vals : List Val) (st : St) : Wrote resetShuffleInput st (shuffleInputEmit vals st).2 := by
  fun_cases shuffleInputEmit vals st
  case case2 => obtain ⟨_, rfl⟩ := shuffleLoop_cur ‹_›; exact ⟨_, rfl⟩
  all_goals exact ⟨_, rfl⟩

theorem risEmit_wrote (vs : List Val) (len : Int) (st : St) (c : Nat) :
    Wrote resetRIS st (risEmit vs len { st with cur := c }).2 := by
  fun_cases risEmit vs len { st with cur := c }
  all_goals exact ⟨_, rfl⟩

/- The classes that are not of the form `stepPure`: which parameters a step reads, what it writes. -/

/-- PSwitchOne reads `length`, then perhaps the input. -/
theorem stepSwitchOne_kids (rec : Rec) (kids : List Pat) (st : St) :
    (stepSwitchOne rec kids st).kids = (stepKid rec kids 1).2 ∨
      (stepSwitchOne rec kids st).kids = (stepKid rec (stepKid rec kids 1).2 0).2 := by
  fun_cases stepSwitchOne rec kids st
  case case1 | case2 => exact .inr rfl
  all_goals exact .inl rfl

theorem stepSwitchOne_stepped (rec : Rec) (kids : List Pat) (st : St) : Stepped rec kids (stepSwitchOne rec kids st).kids := by
  rcases stepSwitchOne_kids rec kids st with h | h <;> rw [h] <;> simp

theorem stepSwitchOne_wrote (rec : Rec) (kids : List Pat) (st : St) :
    Wrote resetSwitchOne st (stepSwitchOne rec kids st).st := by
  fun_cases stepSwitchOne rec kids st
  case case3 => exact switchCore_wrote st
  all_goals exact ⟨_, rfl⟩

/-- PRandomImpulseSequence reads `length`, then perhaps `probability`, at the start of a cycle and nothing in its middle. -/
theorem stepRIS_kids (rec : Rec) (kids : List Pat) (st : St) :
    if st.buf.length ≤ st.n0.toNat then
      (stepRIS rec kids st).kids = (stepKid rec kids 1).2 ∨ (stepRIS rec kids st).kids = (stepKid rec (stepKid rec kids 1).2 0).2
    else (stepRIS rec kids st).kids = kids := by
  fun_cases stepRIS rec kids st
  case case1 | case2 | case3 | case4 | case5 => exact (if_pos ‹_›).mpr (.inr rfl)
  case case10 | case11 => exact (if_neg ‹_›).mpr rfl
  all_goals exact (if_pos ‹_›).mpr (.inl rfl)

theorem stepRIS_stepped (rec : Rec) (kids : List Pat) (st : St) : Stepped rec kids (stepRIS rec kids st).kids := by
  have h := stepRIS_kids rec kids st
  split at h
  · rcases h with h | h <;> rw [h] <;> simp
  · rw [h]; exact .refl

theorem stepRIS_wrote (rec : Rec) (kids : List Pat) (st : St) : Wrote resetRIS st (stepRIS rec kids st).st := by
  fun_cases stepRIS rec kids st
  case case1 h => obtain ⟨_, rfl⟩ := genBits_cur h; exact risEmit_wrote ..
  case case6 => exact risEmit_wrote _ _ st st.cur
  all_goals exact ⟨_, rfl⟩

theorem takeN_stepped (rec : Rec) (n : Nat) (kids : List Pat) (i : Nat) : Stepped rec kids (takeN rec n kids i).2.2 := by
  induction n generalizing kids with
  | zero => exact .refl
  | succ n ih =>
    simp only [takeN]
    split
    · exact (Stepped.refl.step i).trans (ih _)
    · exact Stepped.refl.step i
    · exact Stepped.refl.step i

/-- PShuffleInput reads `every`, then takes values from the input, when a new block is due and nothing within a block. -/
theorem stepShuffleInput_kids (rec : Rec) (kids : List Pat) (st : St) :
    if st.buf.length ≤ st.n0.toNat ∨ st.n0 = 0 then
      (stepShuffleInput rec kids st).kids = (stepKid rec kids 1).2 ∨
        ∃ n, (stepShuffleInput rec kids st).kids = (takeN rec n (stepKid rec kids 1).2 0).2.2
    else (stepShuffleInput rec kids st).kids = kids := by
  fun_cases stepShuffleInput rec kids st
  case case1 | case2 => exact (if_pos ‹_›).mpr (.inr ⟨_, rfl⟩)
  case case6 | case7 => exact (if_neg ‹_›).mpr rfl
  all_goals exact (if_pos ‹_›).mpr (.inl rfl)

theorem stepShuffleInput_stepped (rec : Rec) (kids : List Pat) (st : St) :
    Stepped rec kids (stepShuffleInput rec kids st).kids := by
  have h := stepShuffleInput_kids rec kids st
  split at h
  · rcases h with h | ⟨n, h⟩ <;> rw [h]
    · simp
    · exact (Stepped.refl.step 1).trans (takeN_stepped ..)
  · rw [h]; exact .refl

theorem stepShuffleInput_wrote (rec : Rec) (kids : List Pat) (st : St) :
    Wrote resetShuffleInput st (stepShuffleInput rec kids st).st := by
  fun_cases stepShuffleInput rec kids st
  case case1 => exact shuffleInputEmit_wrote _ { st with n0 := 0 }
  all_goals exact ⟨_, rfl⟩

end IsobarV.Pat
