/-
`next()` (`stepF`), `reset()`, `nextn`, `all`, `len` on the pattern model.
-/
import IsobarV.Pat.Ext

namespace IsobarV.Pat

/-- The class's own-state reset; every class also rewinds its private generator (`rng.seed(seed)`). -/
def clsReset (c : Cls) (st : St) : St :=
  let st1 := match clsResetCore c with
    | some f => f st
    | Option.none =>
      match clsResetExt c with
      | some f => f st
      | Option.none => st
  { st1 with cur := 0 }

mutual
/-- `Pattern.reset()`: reset every pattern-valued attribute, recursively, then the own state. -/
def reset : Pat → Pat
  | .node c kids st => .node c (resetList kids) (clsReset c st)
def resetList : List Pat → List Pat
  | [] => []
  | k :: ks => reset k :: resetList ks
end

theorem resetList_eq_map (ks : List Pat) : resetList ks = ks.map reset := by
  induction ks with
  | nil => rfl
  | cons k ks ih => simp [resetList, ih]

theorem reset_node (c : Cls) (kids : List Pat) (st : St) :
    reset (.node c kids st) = .node c (kids.map reset) (clsReset c st) := by
  simp [reset, resetList_eq_map]

/-- Class dispatch of `next()`.  (Placed after `reset` because `PReset.__next__` calls `reset()` on a sub-pattern:
    the classes of `clsStepExtR` receive the generic `reset`.) -/
def clsStep (c : Cls) : ClsStep :=
  match clsStepCore c with
  | some f => f
  | Option.none =>
    match clsStepExt c with
    | some f => f
    | Option.none =>
      match clsStepExtR c with
      | some f => f reset
      | Option.none => fun _ kids st => { out := .err .unmodelled, kids := kids, st := st }

/-- `next(p)` with recursion depth bounded by `fuel` (out of fuel = `diverge`). -/
def stepF : Nat → Pat → StepRes
  | 0, p => { out := .err .diverge, p := p }
  | fuel + 1, .node c kids st =>
    let r := clsStep c (stepF fuel) kids st
    { out := r.out, p := .node c r.kids r.st }

/-- The first `n` outcomes of repeated `next()`. -/
def outs (fuel : Nat) : Nat → Pat → List Out
  | 0, _ => []
  | n + 1, p => (stepF fuel p).out :: outs fuel n (stepF fuel p).p

/-- The pattern after `n` calls of `next()`. -/
def after (fuel : Nat) : Nat → Pat → Pat
  | 0, p => p
  | n + 1, p => after fuel n (stepF fuel p).p

/-- `Pattern.nextn(count)`: values until `count` are collected or StopIteration; an exception
    propagates.  Returns the collected values, the exception (if any) and the pattern afterwards. -/
structure Collected where
  vals : List Val
  err : Option Err
  p : Pat
  deriving Repr

def nextn (fuel : Nat) : Nat → Pat → Collected
  | 0, p => { vals := [], err := Option.none, p := p }
  | n + 1, p =>
    match (stepF fuel p).out with
    | .val v => let r := nextn fuel n (stepF fuel p).p; { r with vals := v :: r.vals }
    | .stop => { vals := [], err := Option.none, p := (stepF fuel p).p }
    | .err e => { vals := [], err := some e, p := (stepF fuel p).p }

/-- `Pattern.all(maximum)`: `nextn` followed by `reset()`. -/
def all (fuel : Nat) (maximum : Nat) (p : Pat) : Collected :=
  let r := nextn fuel maximum p
  match r.err with
  | Option.none => { r with p := reset r.p }
  | some _ => r      -- the exception escapes before `self.reset()`

/-- `len(p)` = `len(p.all())`. -/
def len (fuel : Nat) (maximum : Nat) (p : Pat) : Option Nat × Pat :=
  let r := all fuel maximum p
  match r.err with
  | Option.none => (some r.vals.length, r.p)
  | some _ => (Option.none, r.p)

def Pat.depth : Pat → Nat
  | .node _ kids _ => 1 + (kids.map Pat.depth).foldl max 0

end IsobarV.Pat
