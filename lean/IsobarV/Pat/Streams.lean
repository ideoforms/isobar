/-
Splitting and composing outcome streams (`recOuts`, `recAfter`, `clsOuts` of `Pat/Lemmas.lean`), the outcomes of a
class along an invariant (`clsOuts_eq_map`, `clsOuts_const`, `clsOuts_fixed`), and `Run`, which composes stretches of
a class's output.  Used by the reference theorems (`Props/C10_*.lean`).
-/
import IsobarV.Pat.Lemmas

namespace IsobarV.Pat

theorem range_succ_map {β : Type} (f : Nat → β) (n : Nat) :
    (List.range (n + 1)).map f = f 0 :: (List.range n).map (fun i => f (i + 1)) := by
  rw [List.range_succ_eq_map, List.map_cons, List.map_map]; rfl

theorem zipWith_replicate_right {α β γ : Type} (f : α → β → γ) (xs : List α) (c : β) :
    List.zipWith f xs (List.replicate xs.length c) = xs.map (f · c) := by
  induction xs with
  | nil => rfl
  | cons x xs ih => rw [List.length_cons, List.replicate_succ, List.zipWith_cons_cons, ih, List.map_cons]

theorem length_flatMap_range {β : Type} (f : Nat → List β) (m n : Nat) (h : ∀ t < m, (f t).length = n) :
    ((List.range m).flatMap f).length = m * n := by
  induction m with
  | zero => rw [Nat.zero_mul]; rfl
  | succ m ih =>
    rw [List.range_succ, List.flatMap_append, List.length_append, ih fun t ht => h t (Nat.lt_succ_of_lt ht),
      List.flatMap_singleton, h m (Nat.lt_succ_self m), Nat.succ_mul]

theorem recOuts_add (rec : Rec) (m n : Nat) (p : Pat) :
    recOuts rec (m + n) p = recOuts rec m p ++ recOuts rec n (recAfter rec m p) := by
  induction m generalizing p with
  | zero => rw [Nat.zero_add]; rfl
  | succ m ih => rw [Nat.add_right_comm]; simp only [recOuts, recAfter, List.cons_append, ih]

/-- The `n + 1`-st outcome is the outcome of the pattern after `n` steps. -/
theorem recOuts_snoc {rec : Rec} {n : Nat} {p : Pat} {os : List Out} {o : Out} (h : recOuts rec (n + 1) p = os ++ [o]) :
    recOuts rec n p = os ∧ (rec (recAfter rec n p)).out = o := by
  rw [recOuts_add] at h
  obtain ⟨h1, h2⟩ := List.append_inj' h rfl
  exact ⟨h1, (List.cons.inj h2).1⟩

/-- Splitting the hypothesis on an input stream: first outcome and the rest. -/
theorem recOuts_stream {rec : Rec} {n : Nat} {p : Pat} {g : Nat → Out}
    (h : recOuts rec (n + 1) p = (List.range (n + 1)).map g) :
    (rec p).out = g 0 ∧ recOuts rec n (rec p).p = (List.range n).map (fun i => g (i + 1)) := by
  rw [range_succ_map, recOuts] at h
  exact List.cons.inj h

theorem recOuts_length (rec : Rec) (n : Nat) (p : Pat) : (recOuts rec n p).length = n := by
  induction n generalizing p with
  | zero => rfl
  | succ n ih => simp only [recOuts, List.length_cons, ih]

theorem recAfter_add (rec : Rec) (m n : Nat) (p : Pat) : recAfter rec n (recAfter rec m p) = recAfter rec (m + n) p := by
  induction m generalizing p with
  | zero => rw [Nat.zero_add]; rfl
  | succ m ih => rw [Nat.add_right_comm]; exact ih _

theorem vals_length {rec : Rec} {n : Nat} {p : Pat} {xs : List Val} (h : recOuts rec n p = xs.map .val) : xs.length = n := by
  rw [← recOuts_length rec n p, h, List.length_map]

/-- A stream of values, split into its first value and the rest. -/
theorem recOuts_succ_vals {rec : Rec} {n : Nat} {p : Pat} {xs : List Val} (h : recOuts rec (n + 1) p = xs.map .val) :
    (rec p).out = .val (xs.headD .none) ∧ recOuts rec n (rec p).p = xs.tail.map .val := by
  cases xs with
  | nil => cases h
  | cons x xs => exact List.cons.inj h

/-- An input that yields the values `ws` and then ends. -/
theorem recOuts_then_stop {rec : Rec} {k : Pat} {ws : List Val} (h : recOuts rec (ws.length + 1) k = ws.map Out.val ++ [.stop]) :
    recOuts rec ws.length k = ws.map Out.val ∧ (rec (recAfter rec ws.length k)).out = .stop :=
  recOuts_snoc h

theorem recOuts_append {rec : Rec} {p : Pat} {a b : List Val} (h : recOuts rec (a ++ b).length p = (a ++ b).map Out.val) :
    recOuts rec a.length p = a.map Out.val ∧ recOuts rec b.length (recAfter rec a.length p) = b.map Out.val := by
  rw [List.length_append, recOuts_add, List.map_append] at h
  exact List.append_inj h (by rw [recOuts_length, List.length_map])

theorem recAfter_succ_last (rec : Rec) (n : Nat) (p : Pat) : recAfter rec (n + 1) p = (rec (recAfter rec n p)).p := by
  rw [← recAfter_add rec n 1 p]; rfl

/-- `k` outcomes from position `b` on. -/
theorem recOuts_slice {rec : Rec} {n : Nat} {p : Pat} {os : List Out} (h : recOuts rec n p = os) {b k : Nat} (hbk : b + k ≤ n) :
    recOuts rec k (recAfter rec b p) = (os.drop b).take k := by
  obtain ⟨j, rfl⟩ := Nat.exists_eq_add_of_le hbk
  rw [← h, Nat.add_assoc, recOuts_add, List.drop_left' (recOuts_length rec b p), recOuts_add,
    List.take_left' (recOuts_length rec k _)]

/-- An input that yields `xs` and then StopIteration for ever, after `b` of these values. -/
theorem finite_after {rec : Rec} {inp : Pat} {xs : List Val}
    (h : ∀ j, recOuts rec (xs.length + j) inp = xs.map Out.val ++ List.replicate j .stop) {b : Nat} (hb : b ≤ xs.length) (j : Nat) :
    recOuts rec ((xs.drop b).length + j) (recAfter rec b inp) = (xs.drop b).map Out.val ++ List.replicate j .stop := by
  have := recOuts_slice (h j) (b := b) (k := (xs.drop b).length + j) (by rw [List.length_drop]; omega)
  rwa [List.drop_append_of_le_length (by rw [List.length_map]; exact hb), ← List.map_drop,
    List.take_of_length_le (by simp)] at this

/-- An input that yields `xs` and then StopIteration for ever is exhausted after `xs.length` steps. -/
theorem dead_after {rec : Rec} {inp : Pat} {xs : List Val}
    (h : ∀ j, recOuts rec (xs.length + j) inp = xs.map Out.val ++ List.replicate j .stop) (j : Nat) :
    recOuts rec xs.length inp = xs.map Out.val ∧
    recOuts rec j (recAfter rec xs.length inp) = List.replicate j .stop := by
  have h1 := h j
  rw [recOuts_add] at h1
  exact List.append_inj h1 (by rw [recOuts_length, List.length_map])

theorem dead_step {rec : Rec} {k : Pat} (h : ∀ j, recOuts rec j k = List.replicate j .stop) :
    (rec k).out = .stop ∧ ∀ j, recOuts rec j (rec k).p = List.replicate j .stop :=
  ⟨(List.cons.inj (h 1)).1, fun j => (List.cons.inj (h (j + 1))).2⟩

theorem clsOuts_cons {step : ClsStep} {rec : Rec} {kids kids' : List Pat} {st st' : St} {o : Out}
    (h : step rec kids st = ⟨o, kids', st'⟩) (n : Nat) :
    clsOuts step rec (n + 1) kids st = o :: clsOuts step rec n kids' st' := by
  simp only [clsOuts, h]

/-- Two states from which the next step is the same behave in the same way. -/
theorem clsOuts_congr {step : ClsStep} {rec : Rec} {kids kids' : List Pat} {st st' : St}
    (h : step rec kids st = step rec kids' st') : ∀ n, clsOuts step rec n kids st = clsOuts step rec n kids' st'
  | 0 => rfl
  | n + 1 => by simp only [clsOuts, h]

theorem clsOuts_take (step : ClsStep) (rec : Rec) (n m : Nat) (kids : List Pat) (st : St) :
    clsOuts step rec n kids st = (clsOuts step rec (n + m) kids st).take n := by
  induction n generalizing kids st with
  | zero => rfl
  | succ n ih => rw [Nat.add_right_comm]; simp only [clsOuts, List.take_succ_cons]; rw [← ih]

/-- Outcomes along an invariant `I i` (of the state before step `i`) that determines the `i`-th outcome. -/
theorem clsOuts_eq_map {step : ClsStep} {rec : Rec} (n : Nat) :
    ∀ (I : Nat → List Pat → St → Prop) (o : Nat → Out),
      (∀ i kids st, I i kids st →
        (step rec kids st).out = o i ∧ I (i + 1) (step rec kids st).kids (step rec kids st).st) →
      ∀ kids st, I 0 kids st → clsOuts step rec n kids st = (List.range n).map o := by
  induction n with
  | zero => intros; rfl
  | succ n ih =>
    intro I o h kids st h0
    rw [range_succ_map, clsOuts, (h 0 kids st h0).1,
      ih (fun i => I (i + 1)) (fun i => o (i + 1)) (fun i => h (i + 1)) _ _ (h 0 kids st h0).2]

theorem clsOuts_const {step : ClsStep} {rec : Rec} {o : Out} (I : List Pat → St → Prop)
    (h : ∀ kids st, I kids st → (step rec kids st).out = o ∧ I (step rec kids st).kids (step rec kids st).st)
    (n : Nat) (kids : List Pat) (st : St) (h0 : I kids st) : clsOuts step rec n kids st = List.replicate n o := by
  rw [clsOuts_eq_map n (fun _ => I) (fun _ => o) (fun _ => h) kids st h0, List.map_const', List.length_range]

theorem clsOuts_fixed {step : ClsStep} {rec : Rec} {kids : List Pat} {st : St} {o : Out}
    (h : step rec kids st = ⟨o, kids, st⟩) (n : Nat) : clsOuts step rec n kids st = List.replicate n o :=
  clsOuts_const (fun k s => k = kids ∧ s = st) (by rintro _ _ ⟨rfl, rfl⟩; rw [h]; exact ⟨rfl, rfl, rfl⟩) n kids st ⟨rfl, rfl⟩

/-- From `(kids, st)` the class yields the outcomes `os` and is then at `(kids', st')`. -/
def Run (step : ClsStep) (rec : Rec) (kids : List Pat) (st : St) (os : List Out) (kids' : List Pat) (st' : St) : Prop :=
  ∀ n, clsOuts step rec (os.length + n) kids st = os ++ clsOuts step rec n kids' st'

namespace Run
variable {step : ClsStep} {rec : Rec} {kids kids₁ kids₂ : List Pat} {st st₁ st₂ : St} {o : Out} {os os' : List Out}

theorem nil : Run step rec kids st [] kids st := fun n => by rw [List.length_nil, Nat.zero_add, List.nil_append]

theorem cons (h : step rec kids st = ⟨o, kids₁, st₁⟩) (hr : Run step rec kids₁ st₁ os kids₂ st₂) :
    Run step rec kids st (o :: os) kids₂ st₂ := fun n => by
  rw [List.length_cons, Nat.add_right_comm, clsOuts_cons h, hr n, List.cons_append]

theorem one (h : step rec kids st = ⟨o, kids₁, st₁⟩) : Run step rec kids st [o] kids₁ st₁ := cons h nil

theorem append (h : Run step rec kids st os kids₁ st₁) (h' : Run step rec kids₁ st₁ os' kids₂ st₂) :
    Run step rec kids st (os ++ os') kids₂ st₂ := fun n => by
  rw [List.length_append, Nat.add_assoc, h, h', List.append_assoc]

theorem outs (h : Run step rec kids st os kids₁ st₁) : clsOuts step rec os.length kids st = os := by
  have := h 0
  rwa [Nat.add_zero, clsOuts, List.append_nil] at this

/-- The end point may be replaced by one that behaves in the same way. -/
theorem of_eq (h : Run step rec kids st os kids₁ st₁)
    (he : ∀ n, clsOuts step rec n kids₁ st₁ = clsOuts step rec n kids₂ st₂) : Run step rec kids st os kids₂ st₂ :=
  fun n => by rw [h n, he n]

/-- Walking through the values `vs`: step `i` yields `vs[i]` and leads from `(K i, S i)` to `(K (i+1), S (i+1))`. -/
theorem vals (K : Nat → List Pat) (S : Nat → St) (vs : List Val) {n : Nat} (hn : vs.length = n)
    (h : ∀ i x, vs[i]? = some x → step rec (K i) (S i) = ⟨.val x, K (i + 1), S (i + 1)⟩) :
    Run step rec (K 0) (S 0) (vs.map .val) (K n) (S n) := by
  subst hn
  induction vs generalizing K S with
  | nil => exact nil
  | cons x vs ih => exact cons (h 0 x rfl) (ih (fun i => K (i + 1)) (fun i => S (i + 1)) (fun i y hy => h (i + 1) y hy))

/-- The same from position `p` on, for a class that does not touch its kids. -/
theorem walk (S : Nat → St) (vs : List Val) {p n : Nat} (hp : p ≤ n) (hn : vs.length = n)
    (h : ∀ i x, vs[i]? = some x → step rec kids (S i) = ⟨.val x, kids, S (i + 1)⟩) :
    Run step rec kids (S p) ((vs.drop p).map .val) kids (S n) := by
  have := vals (step := step) (rec := rec) (fun _ => kids) (fun i => S (p + i)) (vs.drop p) rfl
    (fun i x hx => h (p + i) x (by rwa [List.getElem?_drop] at hx))
  rwa [List.length_drop, hn, Nat.add_sub_cancel' hp] at this

/-- Walking down through the positions of `vs`, from the last to the first. -/
theorem walk_down (S : Nat → St) (vs : List Val) {n : Nat} (hn : vs.length = n)
    (h : ∀ i x, vs[i]? = some x → step rec kids (S (i + 1)) = ⟨.val x, kids, S i⟩) :
    Run step rec kids (S n) (vs.reverse.map .val) kids (S 0) := by
  subst hn
  induction vs generalizing S with
  | nil => exact nil
  | cons a t ih =>
    rw [List.reverse_cons, List.map_append]
    exact (ih (fun i => S (i + 1)) fun i x hx => h (i + 1) x hx).append (one (h 0 a rfl))

/-- The values `w`, `j` times over. -/
theorem replicate (S : Nat → St) (w : List Val) (j : Nat)
    (h : ∀ i < j, Run step rec kids (S i) (w.map .val) kids (S (i + 1))) :
    Run step rec kids (S 0) ((List.replicate j w).flatten.map .val) kids (S j) := by
  induction j with
  | zero => exact nil
  | succ j ih =>
    rw [List.replicate_succ', List.flatten_append, List.map_append, List.flatten_singleton]
    exact (ih fun i hi => h i (Nat.lt_succ_of_lt hi)).append (h j (Nat.lt_succ_self j))

/-- `m` segments in a row, segment `j` leading from `(K j, S j)` to `(K (j+1), S (j+1))`. -/
theorem flatMap (K : Nat → List Pat) (S : Nat → St) (seg : Nat → List Out) (m : Nat)
    (h : ∀ j < m, Run step rec (K j) (S j) (seg j) (K (j + 1)) (S (j + 1))) :
    Run step rec (K 0) (S 0) ((List.range m).flatMap seg) (K m) (S m) := by
  induction m with
  | zero => exact nil
  | succ m ih =>
    rw [List.range_succ, List.flatMap_append, List.flatMap_singleton]
    exact (ih fun j hj => h j (Nat.lt_succ_of_lt hj)).append (h m (Nat.lt_succ_self m))

end Run

theorem stops_after_run {step : ClsStep} {rec : Rec} {kids kids' : List Pat} {st st' : St} {E : List Val}
    (h : Run step rec kids st (E.map Out.val) kids' st')
    (hstop : ∀ n, clsOuts step rec n kids' st' = List.replicate n .stop) (n : Nat) :
    clsOuts step rec n kids st = (E.map Out.val ++ List.replicate n Out.stop).take n := by
  rw [clsOuts_take step rec n (E.map Out.val).length, Nat.add_comm, h n, hstop]

/-- Segments in a row, segment `i` leading from `(K i, S i)` to `(K (i + 1), S (i + 1))`. -/
theorem run_flatten {step : ClsStep} {rec : Rec} (K : Nat → List Pat) (S : Nat → St) (segs : List (List Val))
    (h : ∀ i q, segs[i]? = some q → Run step rec (K i) (S i) (q.map .val) (K (i + 1)) (S (i + 1))) :
    Run step rec (K 0) (S 0) (segs.flatten.map .val) (K segs.length) (S segs.length) := by
  induction segs generalizing K S with
  | nil => exact .nil
  | cons q segs ih =>
    rw [List.flatten_cons, List.map_append]
    exact (h 0 q rfl).append (ih (fun i => K (i + 1)) (fun i => S (i + 1)) fun i q hq => h (i + 1) q hq)

/-- A class that cycles through `L` positions: at position `j` (`P j` holds of the state) it yields `o j` and moves
    on to position `j + 1`, from the last to the first. -/
theorem clsOuts_cycle {step : ClsStep} {rec : Rec} {kids : List Pat} {L : Nat} (P : Nat → St → Prop) (o : Nat → Out)
    (h : ∀ j st, j < L → P j st → ∃ st', step rec kids st = ⟨o j, kids, st'⟩ ∧ P ((j + 1) % L) st')
    (n j : Nat) (st : St) (hj : j < L) (h0 : P j st) :
    clsOuts step rec n kids st = (List.range n).map fun i => o ((j + i) % L) := by
  refine clsOuts_eq_map n (fun i k s => k = kids ∧ P ((j + i) % L) s) _ ?_ kids st
    ⟨rfl, by rwa [Nat.add_zero, Nat.mod_eq_of_lt hj]⟩
  rintro i _ s ⟨rfl, hp⟩
  obtain ⟨st', e, hp'⟩ := h _ s (Nat.mod_lt _ (Nat.zero_lt_of_lt hj)) hp
  rw [e]
  exact ⟨rfl, rfl, by rwa [Nat.mod_add_mod] at hp'⟩

/-- A class passing on the values of its input: `S i` = the state after `i` of them. -/
theorem run_read {step : ClsStep} {rec : Rec} (S : Nat → St) (xs : List Val)
    (h : ∀ i a x, (rec a).out = .val x → step rec [a] (S i) = ⟨.val x, [(rec a).p], S (i + 1)⟩) :
    ∀ a, recOuts rec xs.length a = xs.map Out.val →
      Run step rec [a] (S 0) (xs.map .val) [recAfter rec xs.length a] (S xs.length) := by
  induction xs generalizing S with
  | nil => intro a _; exact .nil
  | cons x xs ih =>
    intro a hr
    obtain ⟨h1, h2⟩ := List.cons.inj hr
    exact .cons (h 0 a x h1) (ih (fun i => S (i + 1)) (fun i => h (i + 1)) _ h2)

end IsobarV.Pat
