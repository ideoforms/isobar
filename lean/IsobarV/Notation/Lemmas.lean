/-
Lemmas about the bracket-notation model, and the notions they are stated in: token texts (`TokText`), the
scanner alone (`tokenize`), the parser as a stack machine (`sm`), balanced brackets (`Balanced`), and strings
as tokens with white space between them (`render`, `LayoutOK`).
-/
import IsobarV.Notation.Model

namespace IsobarV.Notation

theorem isDig_eq_isDigit (c : Char) : isDig c = c.isDigit := by
  simp [isDig, Char.isDigit, UInt32.le_iff_toNat_le]

theorem toNat_eq_of_eq {c d : Char} (h : c = d) : c.toNat = d.toNat := by rw [h]

theorem isDig_isWord {c : Char} (h : isDig c = true) : isWord c = true := by
  unfold isDig at h
  simp only [isWord, h, Bool.true_or]

theorem isNoteLetter_isWord {c : Char} (h : isNoteLetter c = true) : isWord c = true := by
  simp only [isNoteLetter, Bool.and_eq_true, decide_eq_true_eq] at h
  have : (97 ≤ c.toNat && c.toNat ≤ 122) = true := by
    simp only [Bool.and_eq_true, decide_eq_true_eq]; omega
  simp only [isWord, this, Bool.true_or, Bool.or_true]

/-- word characters lie inside `'0'..'z'`, white space outside -/
theorem isWord_not_isSpace {c : Char} (hw : isWord c = true) (hs : isSpace c = true) : False := by
  have : 48 ≤ c.toNat ∧ c.toNat ≤ 122 := by
    simp only [isWord, Bool.or_eq_true, Bool.and_eq_true, decide_eq_true_eq, beq_iff_eq] at hw
    omega
  simp only [isSpace, Bool.or_eq_true, Bool.and_eq_true, decide_eq_true_eq, beq_iff_eq] at hs
  omega

theorem isNoteLetter_not_isDig {c : Char} (h : isNoteLetter c = true) : isDig c = false := by
  simp only [isNoteLetter, Bool.and_eq_true, decide_eq_true_eq] at h
  simp only [isDig, Bool.and_eq_false_iff, decide_eq_false_iff_not]
  omega

theorem ne_of_class {p : Char → Bool} {c d : Char} (hc : p c = true) (hd : p d = false) : c ≠ d := by
  rintro rfl
  rw [hd] at hc
  cases hc

theorem isWord_ne {c : Char} (h : isWord c = true) : c ≠ '-' ∧ c ≠ '.' ∧ c ≠ '#' ∧ c ≠ '[' ∧ c ≠ ']' := by
  refine ⟨?_, ?_, ?_, ?_, ?_⟩ <;> exact ne_of_class h (by decide)

theorem lstrip_eq_dropWhile (s : List Char) : lstrip s = s.dropWhile isSpace := by
  induction s with
  | nil => rfl
  | cons c cs ih => simp only [lstrip, List.dropWhile_cons, ih]

theorem lstrip_length_le (s : List Char) : (lstrip s).length ≤ s.length := by
  rw [lstrip_eq_dropWhile]
  exact (List.dropWhile_sublist _).length_le

theorem lstrip_decomp (s : List Char) :
    ∃ w, s = w ++ lstrip s ∧ ∀ c ∈ w, isSpace c = true :=
  ⟨s.takeWhile isSpace, by rw [lstrip_eq_dropWhile, List.takeWhile_append_dropWhile],
    fun _ hc => List.all_eq_true.mp List.all_takeWhile _ hc⟩

theorem lstrip_head_not_space {s : List Char} {c : Char} {r : List Char}
    (h : lstrip s = c :: r) : isSpace c = false := by
  have := List.head?_dropWhile_not isSpace s
  rwa [← lstrip_eq_dropWhile, h] at this

def NoLead (p : Char → Bool) (r : List Char) : Prop := ∀ c r', r = c :: r' → p c = false

theorem NoLead.dropWhile {p : Char → Bool} {r : List Char} (h : NoLead p r) : r.dropWhile p = r := by
  cases r with
  | nil => rfl
  | cons c r' => exact List.dropWhile_cons_of_neg (by simp [h c r' rfl])

theorem NoLead.takeWhile {p : Char → Bool} {r : List Char} (h : NoLead p r) : r.takeWhile p = [] := by
  cases r with
  | nil => rfl
  | cons c r' => exact List.takeWhile_cons_of_neg (by simp [h c r' rfl])

theorem lstrip_append_of_spaces (w r : List Char) (hw : ∀ c ∈ w, isSpace c = true)
    (hr : NoLead isSpace r) : lstrip (w ++ r) = r := by
  rw [lstrip_eq_dropWhile, List.dropWhile_append_of_pos hw, hr.dropWhile]

theorem spanDigits_eq (s : List Char) : spanDigits s = ⟨s.takeWhile isDig, s.dropWhile isDig⟩ := by
  induction s with
  | nil => rfl
  | cons c cs ih =>
    simp only [spanDigits, List.takeWhile_cons, List.dropWhile_cons, ih]
    split <;> rfl

theorem spanDigits_append (ds r : List Char) (hd : ∀ c ∈ ds, isDig c = true) (hr : NoLead isDig r) :
    spanDigits (ds ++ r) = ⟨ds, r⟩ := by
  rw [spanDigits_eq, List.takeWhile_append_of_pos hd, List.dropWhile_append_of_pos hd, hr.takeWhile,
    hr.dropWhile, List.append_nil]

theorem allDigits_iff {ds : List Char} :
    allDigits ds = true ↔ ds ≠ [] ∧ ∀ c ∈ ds, isDig c = true := by
  cases ds <;> simp [allDigits]

theorem allDigits_head {ds : List Char} (h : allDigits ds = true) :
    ∃ a r, ds = a :: r ∧ isDig a = true := by
  obtain ⟨hne, hall⟩ := allDigits_iff.mp h
  cases ds with
  | nil => exact absurd rfl hne
  | cons a r => exact ⟨a, r, rfl, hall a (List.mem_cons_self ..)⟩

def TokChar (c : Char) : Prop :=
  isDig c = true ∨ isNoteLetter c = true ∨ c = '-' ∨ c = '.' ∨ c = '#' ∨ c = '[' ∨ c = ']'

/-- a foreign character: it belongs to no token and is not white space -/
def Foreign (c : Char) : Prop :=
  isSpace c = false ∧ isDig c = false ∧ isNoteLetter c = false ∧
    c ≠ '-' ∧ c ≠ '.' ∧ c ≠ '#' ∧ c ≠ '[' ∧ c ≠ ']'

instance (c : Char) : Decidable (Foreign c) := by unfold Foreign; infer_instance

theorem Foreign.not_tokChar {c : Char} (h : Foreign c) : ¬ TokChar c := by
  simp only [TokChar, not_or, Bool.not_eq_true]
  exact h.2

/-- `[0-9]+` or `[0-9]+\.[0-9]+` -/
def UNumText (u : List Char) : Prop :=
  allDigits u = true ∨ ∃ ip fp, allDigits ip = true ∧ allDigits fp = true ∧ u = ip ++ '.' :: fp

def NoteText (t : List Char) : Prop :=
  ∃ c d, isNoteLetter c = true ∧ isDig d = true ∧ (t = [c, d] ∨ t = [c, '#', d])

/-- a token text that is not a bracket: `-?[0-9]+(\.[0-9]+)?` or `[a-g]#?[0-9]` -/
def AtomText (t : List Char) : Prop := (∃ u, UNumText u ∧ (t = u ∨ t = '-' :: u)) ∨ NoteText t

def IsBracket (t : List Char) : Prop := t = ['['] ∨ t = [']']

def TokText (t : List Char) : Prop := IsBracket t ∨ AtomText t

theorem UNumText.head {u : List Char} (h : UNumText u) : ∃ a r, u = a :: r ∧ isDig a = true := by
  rcases h with hd | ⟨ip, fp, hi, -, rfl⟩
  · exact allDigits_head hd
  · obtain ⟨a, r, rfl, ha⟩ := allDigits_head hi
    exact ⟨a, _, rfl, ha⟩

theorem AtomText.head {t : List Char} (h : AtomText t) :
    ∃ c r, t = c :: r ∧ (isWord c = true ∨ c = '-') := by
  rcases h with ⟨u, hu, rfl | rfl⟩ | ⟨c, d, hc, -, rfl | rfl⟩
  · obtain ⟨a, r, rfl, ha⟩ := hu.head
    exact ⟨a, r, rfl, .inl (isDig_isWord ha)⟩
  · exact ⟨_, _, rfl, .inr rfl⟩
  · exact ⟨_, _, rfl, .inl (isNoteLetter_isWord hc)⟩
  · exact ⟨_, _, rfl, .inl (isNoteLetter_isWord hc)⟩

theorem AtomText.not_bracket {t : List Char} (h : AtomText t) : ¬ IsBracket t := by
  obtain ⟨c, r, rfl, hc⟩ := h.head
  rintro (hb | hb) <;> cases hb <;> revert hc <;> decide

theorem TokText.head {t : List Char} (h : TokText t) : ∃ c r, t = c :: r ∧ isSpace c = false := by
  rcases h with (rfl | rfl) | h
  · exact ⟨_, _, rfl, by decide⟩
  · exact ⟨_, _, rfl, by decide⟩
  · obtain ⟨c, r, rfl, hc | rfl⟩ := h.head
    · exact ⟨c, r, rfl, Bool.eq_false_iff.mpr (isWord_not_isSpace hc)⟩
    · exact ⟨_, r, rfl, by decide⟩

theorem TokText.chars {t : List Char} (h : TokText t) : ∀ c ∈ t, TokChar c := by
  have dig : ∀ {ds : List Char}, allDigits ds = true → ∀ c ∈ ds, TokChar c :=
    fun h c hc => .inl ((allDigits_iff.mp h).2 c hc)
  have unum : ∀ {u : List Char}, UNumText u → ∀ c ∈ u, TokChar c := by
    rintro u (hd | ⟨ip, fp, hi, hf, rfl⟩)
    · exact dig hd
    · exact List.forall_mem_append.mpr ⟨dig hi,
        List.forall_mem_cons.mpr ⟨.inr (.inr (.inr (.inl rfl))), dig hf⟩⟩
  rcases h with (rfl | rfl) | ⟨u, hu, rfl | rfl⟩ | ⟨c, d, hc, hd, rfl | rfl⟩
  · exact List.forall_mem_singleton.mpr (.inr (.inr (.inr (.inr (.inr (.inl rfl))))))
  · exact List.forall_mem_singleton.mpr (.inr (.inr (.inr (.inr (.inr (.inr rfl))))))
  · exact unum hu
  · exact List.forall_mem_cons.mpr ⟨.inr (.inr (.inl rfl)), unum hu⟩
  · exact List.forall_mem_cons.mpr ⟨.inr (.inl hc), List.forall_mem_singleton.mpr (.inl hd)⟩
  · exact List.forall_mem_cons.mpr ⟨.inr (.inl hc), List.forall_mem_cons.mpr
      ⟨.inr (.inr (.inr (.inr (.inl rfl)))), List.forall_mem_singleton.mpr (.inl hd)⟩⟩

theorem matchNote_some {s t : List Char} (h : matchNote s = some t) : NoteText t ∧ ∃ r, s = t ++ r := by
  match s, h with
  | c :: x :: rest, h =>
    simp only [matchNote, Option.ite_none_right_eq_some] at h
    obtain ⟨hc, h⟩ := h
    by_cases hx : x = '#'
    · rw [if_pos hx] at h
      match rest, h with
      | d :: rest', h =>
        simp only [Option.ite_none_right_eq_some, Bool.and_eq_true, Option.some.injEq] at h
        obtain ⟨⟨hd, -⟩, rfl⟩ := h
        exact ⟨⟨c, d, hc, hd, .inr (by rw [hx])⟩, rest', rfl⟩
    · simp only [if_neg hx, Option.ite_none_right_eq_some, Bool.and_eq_true, Option.some.injEq] at h
      obtain ⟨⟨hd, -⟩, rfl⟩ := h
      exact ⟨⟨c, x, hc, hd, .inl rfl⟩, rest, rfl⟩

theorem matchUnsigned_some {s t : List Char} (h : matchUnsigned s = some t) :
    UNumText t ∧ ∃ r, s = t ++ r := by
  have hs := List.takeWhile_append_dropWhile (p := isDig) (l := s)
  have hd : ∀ c ∈ s.takeWhile isDig, isDig c = true := List.all_eq_true.mp List.all_takeWhile
  simp only [matchUnsigned, spanDigits_eq, Option.ite_none_left_eq_some, List.isEmpty_iff] at h
  obtain ⟨hne, h⟩ := h
  generalize s.takeWhile isDig = ds at *
  generalize s.dropWhile isDig = r at *
  by_cases hf : (decide (r.head? = some '.') && !((r.drop 1).takeWhile isDig).isEmpty &&
      boundary ((r.drop 1).dropWhile isDig)) = true
  · rw [if_pos hf, Option.some.injEq] at h
    simp only [Bool.and_eq_true, decide_eq_true_eq, Bool.not_eq_true', List.isEmpty_eq_false_iff] at hf
    obtain ⟨⟨hdot, hne'⟩, -⟩ := hf
    match r, hdot with
    | _ :: r, rfl =>
      have hfs : ∀ c ∈ r.takeWhile isDig, isDig c = true := List.all_eq_true.mp List.all_takeWhile
      refine ⟨.inr ⟨ds, _, allDigits_iff.mpr ⟨hne, hd⟩, allDigits_iff.mpr ⟨hne', hfs⟩, h.symm⟩,
        r.dropWhile isDig, ?_⟩
      rw [← h, ← hs, List.append_assoc, List.cons_append]
      exact congrArg _ (congrArg _ List.takeWhile_append_dropWhile.symm)
  · simp only [if_neg hf, Option.ite_none_right_eq_some, Option.some.injEq] at h
    rw [← h.2]
    exact ⟨.inl (allDigits_iff.mpr ⟨hne, hd⟩), r, hs.symm⟩

theorem matchNumber_some {s t : List Char} (h : matchNumber s = some t) :
    (∃ u, UNumText u ∧ (t = u ∨ t = '-' :: u)) ∧ ∃ r, s = t ++ r := by
  match s, h with
  | c :: cs, h =>
    rw [matchNumber] at h
    by_cases hc : c = '-'
    · rw [if_pos hc] at h
      cases hm : matchUnsigned cs with
      | none => rw [hm] at h; cases h
      | some u =>
        rw [hm] at h
        cases h
        obtain ⟨hu, r, rfl⟩ := matchUnsigned_some hm
        exact ⟨⟨u, hu, .inr (by rw [hc])⟩, r, rfl⟩
    · rw [if_neg hc] at h
      obtain ⟨hu, hr⟩ := matchUnsigned_some h
      exact ⟨⟨t, hu, .inl rfl⟩, hr⟩

theorem nextToken_cases (s : List Char) :
    (∃ t, nextToken s = .ok t ∧ TokText t ∧ ∃ r, s = t ++ r) ∨ nextToken s = .error .valueError ∨
      (nextToken s = .error .indexError ∧ s = []) := by
  unfold nextToken
  split
  · exact .inr (.inr ⟨rfl, rfl⟩)
  next c cs =>
    split
    next hc => exact .inl ⟨_, rfl, .inl (hc.imp (congrArg (· :: [])) (congrArg (· :: []))), cs, rfl⟩
    split
    next t hm => exact .inl ⟨t, rfl, (matchNumber_some hm).imp_left fun h => .inr (.inl h)⟩
    split
    next t hn => exact .inl ⟨t, rfl, (matchNote_some hn).imp_left fun h => .inr (.inr h)⟩
    exact .inr (.inl rfl)

theorem nextToken_sound {s t : List Char} (h : nextToken s = .ok t) : TokText t ∧ ∃ r, s = t ++ r := by
  obtain ⟨t', h', ht⟩ | h' | ⟨h', -⟩ := nextToken_cases s <;> rw [h'] at h <;> cases h
  exact ht

theorem nextToken_indexError {s : List Char} (h : nextToken s = .error .indexError) : s = [] := by
  obtain ⟨t', h', -⟩ | h' | ⟨-, hs⟩ := nextToken_cases s
  · rw [h'] at h; cases h
  · rw [h'] at h; cases h
  · exact hs

theorem nextToken_not_internal (s : List Char) : nextToken s ≠ .error .internal := by
  obtain ⟨t', h', -⟩ | h' | ⟨h', -⟩ := nextToken_cases s <;> rw [h'] <;> nofun

/-- `Delim r`: what follows an atom does not extend it: the end of the string, white space or a bracket
(more generally anything that is a `\b` boundary and neither a digit nor a `.`). -/
def Delim (r : List Char) : Prop := boundary r = true ∧ NoLead isDig r ∧ r.head? ≠ some '.'

theorem Delim.of_space {c : Char} {r : List Char} (h : isSpace c = true) : Delim (c :: r) := by
  have hw : isWord c = false := Bool.eq_false_iff.mpr (isWord_not_isSpace · h)
  refine ⟨by simp only [boundary, hw, Bool.not_false], ?_, ?_⟩
  · rintro _ _ ⟨⟩
    exact Bool.eq_false_iff.mpr fun hd => isWord_not_isSpace (isDig_isWord hd) h
  · rw [List.head?_cons, Ne, Option.some.injEq]
    exact ne_of_class h (by decide)

theorem Delim.of_bracket {c : Char} {r : List Char} (h : c = '[' ∨ c = ']') : Delim (c :: r) := by
  rcases h with rfl | rfl
  · exact ⟨rfl, by rintro _ _ ⟨⟩; rfl, by rintro ⟨⟩⟩
  · exact ⟨rfl, by rintro _ _ ⟨⟩; rfl, by rintro ⟨⟩⟩

theorem matchUnsigned_text {u r : List Char} (hu : UNumText u) (hr : Delim r) :
    matchUnsigned (u ++ r) = some u := by
  obtain ⟨hb, hnd, hdot⟩ := hr
  rcases hu with hd | ⟨ip, fp, hi, hf, rfl⟩
  · obtain ⟨hne, hall⟩ := allDigits_iff.mp hd
    rw [matchUnsigned, spanDigits_append u r hall hnd]
    simp [hne, hdot, hb]
  · obtain ⟨hne, hall⟩ := allDigits_iff.mp hi
    obtain ⟨hne', hall'⟩ := allDigits_iff.mp hf
    rw [matchUnsigned, List.append_assoc,
      spanDigits_append ip _ hall (by rintro _ _ ⟨⟩; rfl)]
    simp [spanDigits_append fp r hall' hnd, hne, hne', hb]

theorem matchUnsigned_of_not_digit {c : Char} (cs : List Char) (h : isDig c = false) :
    matchUnsigned (c :: cs) = none := by
  simp [matchUnsigned, spanDigits, h]

theorem nextToken_bracket {c : Char} (h : c = '[' ∨ c = ']') (r : List Char) :
    nextToken (c :: r) = .ok [c] := by
  simp [nextToken, h]

theorem nextToken_atom {t r : List Char} (ht : AtomText t) (hr : Delim r) :
    nextToken (t ++ r) = .ok t := by
  rcases ht with ⟨u, hu, rfl | rfl⟩ | ⟨c, d, hc, hd, rfl | rfl⟩
  · have hm := matchUnsigned_text hu hr
    obtain ⟨a, u', rfl, ha⟩ := hu.head
    rw [List.cons_append] at hm ⊢
    simp only [nextToken, matchNumber, isWord_ne (isDig_isWord ha), or_self, if_false, hm]
  · simp [nextToken, matchNumber, matchUnsigned_text hu hr]
  all_goals
    simp [nextToken, matchNumber, matchNote, isWord_ne (isNoteLetter_isWord hc), isWord_ne (isDig_isWord hd),
      hc, hd, hr.1, matchUnsigned_of_not_digit _ (isNoteLetter_not_isDig hc)]

/-- the leaves the property quantifies over: any integer, a decimal float written as two non-empty digit
strings, a note name `[a-g]#?[0-9]` -/
def Val.Valid : Val → Prop
  | .int _ => True
  | .flt _ ip fp => allDigits ip = true ∧ allDigits fp = true
  | .name cs => NoteText cs

theorem fmtNat_allDigits (n : Nat) : allDigits (fmtNat n) = true := by
  rw [allDigits_iff]
  refine ⟨Nat.toDigits_ne_nil, ?_⟩
  intro c hc
  rw [isDig_eq_isDigit]
  exact Nat.isDigit_of_mem_toDigits (by decide) (by decide) hc

theorem fmtVal_atom {v : Val} (hv : v.Valid) : AtomText (fmtVal v) := by
  cases v with
  | int i =>
    refine .inl ⟨_, .inl (fmtNat_allDigits i.natAbs), ?_⟩
    rw [fmtVal]
    split
    · exact .inr rfl
    · exact .inl rfl
  | flt neg ip fp =>
    refine .inl ⟨_, .inr ⟨ip, fp, hv.1, hv.2, rfl⟩, ?_⟩
    cases neg
    · exact .inl rfl
    · exact .inr rfl
  | name cs => exact .inr hv

theorem intOfToken_digits {ds : List Char} (h : allDigits ds = true) :
    intOfToken ds = some (Int.ofNat (Nat.ofDigitChars 10 ds 0)) := by
  obtain ⟨a, r, rfl, ha⟩ := allDigits_head h
  simp only [intOfToken, (isWord_ne (isDig_isWord ha)).1, if_false, h, if_true]

theorem intOfToken_neg (ds : List Char) :
    intOfToken ('-' :: ds) = if allDigits ds then some (-(Int.ofNat (Nat.ofDigitChars 10 ds 0))) else none := by
  simp only [intOfToken, if_true]

theorem allDigits_not_dot {ip fp : List Char} : allDigits (ip ++ '.' :: fp) = false :=
  Bool.eq_false_iff.mpr fun h => absurd ((allDigits_iff.mp h).2 '.' (by simp)) (by decide)

theorem splitDot_digits {ip fp : List Char} (hi : ∀ c ∈ ip, isDig c = true) :
    splitDot (ip ++ '.' :: fp) = some ⟨ip, fp⟩ := by
  induction ip with
  | nil => simp [splitDot]
  | cons a ip ih =>
    obtain ⟨ha, hi⟩ := List.forall_mem_cons.mp hi
    simp [splitDot, (isWord_ne (isDig_isWord ha)).2.1, ih hi]

theorem unsignedFloat_digits (neg : Bool) {ip fp : List Char} (hi : allDigits ip = true)
    (hf : allDigits fp = true) : unsignedFloat neg (ip ++ '.' :: fp) = some (.flt neg ip fp) := by
  simp only [unsignedFloat, splitDot_digits (allDigits_iff.mp hi).2, hi, hf, Bool.and_self, if_true]

theorem tokenToValue_fmtVal {v : Val} (hv : v.Valid) : tokenToValue (fmtVal v) = v := by
  cases v with
  | int i =>
    have hd := fmtNat_allDigits i.natAbs
    have hn : Nat.ofDigitChars 10 (fmtNat i.natAbs) 0 = i.natAbs := Nat.ofDigitChars_ten_toDigits ..
    rw [fmtVal]
    split
    next h =>
      simp only [tokenToValue, intOfToken_neg, hd, if_true, hn, Int.ofNat_eq_natCast,
        Int.ofNat_natAbs_of_nonpos (Int.le_of_lt h), Int.neg_neg]
    next h =>
      simp only [tokenToValue, intOfToken_digits hd, hn, Int.ofNat_eq_natCast,
        Int.natAbs_of_nonneg (Int.not_lt.mp h)]
  | flt neg ip fp =>
    obtain ⟨hi, hf⟩ := hv
    have hu := unsignedFloat_digits neg hi hf
    cases neg with
    | true =>
      simp only [fmtVal, if_true, List.cons_append, List.nil_append, tokenToValue, intOfToken_neg,
        allDigits_not_dot, Bool.false_eq_true, if_false, floatOfToken, hu]
    | false =>
      obtain ⟨a, ip', rfl, ha⟩ := allDigits_head hi
      have hnd := @allDigits_not_dot (a :: ip') fp
      rw [List.cons_append] at hnd hu
      simp [fmtVal, tokenToValue, intOfToken, floatOfToken, (isWord_ne (isDig_isWord ha)).1, hnd, hu]
  | name cs =>
    obtain ⟨c, d, hc, hd, rfl | rfl⟩ := hv
    all_goals
      simp [fmtVal, tokenToValue, intOfToken, floatOfToken, unsignedFloat, splitDot, allDigits,
        isWord_ne (isNoteLetter_isWord hc), isWord_ne (isDig_isWord hd), isNoteLetter_not_isDig hc]

/-- the scanning part of `parseLoop` alone: the list of token texts -/
def tokenizeLoop : Nat → List Char → Except Err (List (List Char))
  | 0, _ => .error .internal
  | fuel + 1, s =>
    match nextToken s with
    | .error e => .error e
    | .ok tok =>
      let s' := lstrip (s.drop tok.length)
      if s'.isEmpty then .ok [tok]
      else
        match tokenizeLoop fuel s' with
        | .ok toks => .ok (tok :: toks)
        | .error e => .error e

/-- the token texts of a string, as `parse_notation` scans them -/
def tokenize (s : List Char) : Except Err (List (List Char)) := tokenizeLoop (s.length + 1) s

theorem tokenizeLoop_error {fuel : Nat} {s : List Char} {e : Err} (h : nextToken s = .error e) :
    tokenizeLoop (fuel + 1) s = .error e := by
  simp only [tokenizeLoop, h]

theorem tokenizeLoop_ok {fuel : Nat} {tok r : List Char} (h : nextToken (tok ++ r) = .ok tok) :
    tokenizeLoop (fuel + 1) (tok ++ r) =
      if lstrip r = [] then .ok [tok] else (tokenizeLoop fuel (lstrip r)).map (tok :: ·) := by
  simp only [tokenizeLoop, h, List.drop_left, List.isEmpty_iff]
  split
  · rfl
  · cases tokenizeLoop fuel (lstrip r) <;> rfl

/-- a layout: every token text followed by the run of white space after it -/
def render : List (List Char × List Char) → List Char
  | [] => []
  | p :: rest => p.1 ++ p.2 ++ render rest

theorem mem_render {c : Char} {lay : List (List Char × List Char)} :
    c ∈ render lay ↔ ∃ p ∈ lay, c ∈ p.1 ∨ c ∈ p.2 := by
  induction lay with
  | nil => exact ⟨nofun, nofun⟩
  | cons p rest ih => simp only [render, List.mem_append, ih, List.mem_cons, exists_eq_or_imp]

theorem tokenizeLoop_sound (fuel : Nat) (s : List Char) (toks : List (List Char))
    (h : tokenizeLoop fuel s = .ok toks) :
    ∃ lay : List (List Char × List Char), lay.map Prod.fst = toks ∧ render lay = s ∧
      ∀ p ∈ lay, TokText p.1 ∧ ∀ c ∈ p.2, isSpace c = true := by
  induction fuel generalizing s toks with
  | zero => cases h
  | succ fuel ih =>
    cases hn : nextToken s with
    | error e => rw [tokenizeLoop_error hn] at h; cases h
    | ok tok =>
      obtain ⟨htok, r, rfl⟩ := nextToken_sound hn
      obtain ⟨w, hw, hws⟩ := lstrip_decomp r
      rw [tokenizeLoop_ok hn] at h
      by_cases he : lstrip r = []
      · rw [if_pos he] at h
        cases h
        refine ⟨[(tok, w)], rfl, ?_, List.forall_mem_singleton.mpr ⟨htok, hws⟩⟩
        rw [hw, he, render, render, List.append_nil, List.append_nil]
      · rw [if_neg he] at h
        cases ht : tokenizeLoop fuel (lstrip r) with
        | error e => rw [ht] at h; cases h
        | ok toks' =>
          rw [ht] at h
          cases h
          obtain ⟨lay, h1, h2, h3⟩ := ih _ _ ht
          refine ⟨(tok, w) :: lay, by rw [← h1]; rfl, ?_, List.forall_mem_cons.mpr ⟨⟨htok, hws⟩, h3⟩⟩
          rw [render, h2, List.append_assoc, ← hw]

/-- `len(s) + 1` iterations are never exhausted: every token takes at least one character -/
theorem tokenizeLoop_not_internal (fuel : Nat) (s : List Char) (hf : s.length < fuel) :
    tokenizeLoop fuel s ≠ .error .internal := by
  induction fuel generalizing s with
  | zero => omega
  | succ fuel ih =>
    cases hn : nextToken s with
    | error e =>
      rw [tokenizeLoop_error hn]
      rintro ⟨⟩
      exact nextToken_not_internal s hn
    | ok tok =>
      obtain ⟨htok, r, rfl⟩ := nextToken_sound hn
      rw [tokenizeLoop_ok hn]
      split
      · nofun
      · have hl : (lstrip r).length < fuel := by
          have := lstrip_length_le r
          obtain ⟨c, t, rfl, -⟩ := htok.head
          rw [List.length_append, List.length_cons] at hf
          omega
        cases ht : tokenizeLoop fuel (lstrip r) with
        | ok _ => nofun
        | error e =>
          rintro ⟨⟩
          exact ih _ hl ht

/-- what a token means to the parser -/
inductive Item where
  | lb
  | rb
  | val (v : Val)
  deriving DecidableEq, Repr

def itemOf (t : List Char) : Item :=
  if t = ['['] then .lb else if t = [']'] then .rb else .val (tokenToValue t)

/-- `plugIn inner outers`: the top-level list when `inner` is the innermost open group and `outers` are the
lists of the enclosing open groups, nearest first. -/
def plugIn : List Tree → List (List Tree) → List Tree
  | inner, [] => inner
  | inner, o :: os => plugIn (o ++ [.group inner]) os

/-- The parser as a stack machine on the tokens' meanings: `outers` = enclosing open groups (nearest first),
`inner` = innermost open group. -/
def sm : List Item → List (List Tree) → List Tree → Option (List Tree)
  | [], outers, inner => if outers.isEmpty then some inner else none
  | .lb :: is, outers, inner => sm is (inner :: outers) []
  | .rb :: is, outers, inner =>
    match outers with
    | [] => none
    | o :: os => sm is os (o ++ [.group inner])
  | .val v :: is, outers, inner => sm is outers (inner ++ [.leaf v])

/-- one move of the stack machine; `none`: a `]` with nothing open -/
def smStep : Item → List (List Tree) → List Tree → Option (List (List Tree) × List Tree)
  | .lb, outers, inner => some (inner :: outers, [])
  | .rb, [], _ => none
  | .rb, o :: os, inner => some (os, o ++ [.group inner])
  | .val v, outers, inner => some (outers, inner ++ [.leaf v])

theorem sm_cons (i : Item) (is : List Item) (outers : List (List Tree)) (inner : List Tree) :
    sm (i :: is) outers inner = (smStep i outers inner).bind fun p => sm is p.1 p.2 := by
  cases i with
  | rb => cases outers <;> rfl
  | _ => rfl

theorem pushAt_snoc_group (k : Nat) (obj : Tree) (o X : List Tree) :
    pushAt (k + 1) obj (o ++ [.group X]) = (pushAt k obj X).map fun X' => o ++ [.group X'] := by
  cases h : pushAt k obj X <;> simp [pushAt, h]

theorem pushAt_plugIn (os : List (List Tree)) (k : Nat) (obj : Tree) (X : List Tree) :
    pushAt (os.length + k) obj (plugIn X os) = (pushAt k obj X).map (plugIn · os) := by
  induction os generalizing X k with
  | nil => rw [List.length_nil, Nat.zero_add, plugIn]; cases pushAt k obj X <;> rfl
  | cons o os ih =>
    rw [List.length_cons, Nat.add_assoc, Nat.add_comm 1 k, plugIn, ih, pushAt_snoc_group]
    cases pushAt k obj X <;> rfl

/-- `_parser_push` at the current depth appends to the innermost open group -/
theorem pushAt_plugIn_zero (os : List (List Tree)) (obj : Tree) (X : List Tree) :
    pushAt os.length obj (plugIn X os) = some (plugIn (X ++ [obj]) os) :=
  pushAt_plugIn os 0 obj X

/-- The code's state `(groups, depth)` stands for the stack `(outers, inner)`: `groups = plugIn inner outers`,
`depth = outers.length`.  On such a state the loop body is a move of the stack machine, and `_parser_push`
never fails. -/
theorem stepTok_plugIn (outers : List (List Tree)) (inner : List Tree) (tok : List Char) :
    stepTok (plugIn inner outers) outers.length tok =
      match smStep (itemOf tok) outers inner with
      | some (outers', inner') => .ok ⟨plugIn inner' outers', outers'.length⟩
      | none => .error .valueError := by
  by_cases h1 : tok = ['[']
  · simp [stepTok, itemOf, smStep, h1, pushAt_plugIn_zero, plugIn]
  · by_cases h2 : tok = [']']
    · cases outers <;> simp [stepTok, itemOf, smStep, h2, plugIn]
    · simp [stepTok, itemOf, smStep, h1, h2, pushAt_plugIn_zero]

/-- **`parse_notation` is scanner + stack machine.**  From a state that stands for the stack `(outers, inner)`
the loop returns what the stack machine makes of the scanned tokens, `ValueError` when it rejects them; when
the scanner fails, the loop fails in the same way or, earlier, on a stray `]`. -/
theorem parseLoop_eq (fuel : Nat) (outers : List (List Tree)) (inner : List Tree) (s : List Char) :
    match tokenizeLoop fuel s with
    | .ok toks => parseLoop fuel (plugIn inner outers) outers.length s =
        (sm (toks.map itemOf) outers inner).elim (.error .valueError) .ok
    | .error e => parseLoop fuel (plugIn inner outers) outers.length s = .error e ∨
        parseLoop fuel (plugIn inner outers) outers.length s = .error .valueError := by
  induction fuel generalizing outers inner s with
  | zero => exact .inl rfl
  | succ fuel ih =>
    cases hn : nextToken s with
    | error e =>
      rw [tokenizeLoop_error hn]
      exact .inl (by simp only [parseLoop, hn])
    | ok tok =>
      obtain ⟨r, rfl⟩ := (nextToken_sound hn).2
      rw [tokenizeLoop_ok hn]
      simp only [parseLoop, hn, List.drop_left, stepTok_plugIn, List.isEmpty_iff]
      by_cases he : lstrip r = []
      · simp only [if_pos he, List.map_cons, List.map_nil, sm_cons]
        -- the end of the string: accepted when nothing is open
        rcases smStep (itemOf tok) outers inner with _ | ⟨_ | _, _⟩ <;> rfl
      · simp only [if_neg he]
        cases ht : tokenizeLoop fuel (lstrip r) with
        | error e =>
          cases hs : smStep (itemOf tok) outers inner with
          | none => exact .inr rfl
          | some p => have := ih p.1 p.2 (lstrip r); rw [ht] at this; exact this
        | ok toks =>
          simp only [Except.map, List.map_cons, sm_cons]
          cases hs : smStep (itemOf tok) outers inner with
          | none => rfl
          | some p => have := ih p.1 p.2 (lstrip r); rw [ht] at this; exact this

mutual
def itemsT : Tree → List Item
  | .leaf v => [.val v]
  | .group ts => .lb :: (itemsL ts ++ [.rb])
def itemsL : List Tree → List Item
  | [] => []
  | t :: ts => itemsT t ++ itemsL ts
end

theorem itemsL_append (a b : List Tree) : itemsL (a ++ b) = itemsL a ++ itemsL b := by
  induction a with
  | nil => rfl
  | cons t ts ih => rw [List.cons_append, itemsL, itemsL, ih, List.append_assoc]

mutual
theorem sm_itemsT (t : Tree) (more : List Item) (outers : List (List Tree)) (inner : List Tree) :
    sm (itemsT t ++ more) outers inner = sm more outers (inner ++ [t]) := by
  cases t with
  | leaf v => rfl
  | group ts => rw [itemsT, List.cons_append, sm, List.append_assoc, sm_itemsL_more ts]; rfl
theorem sm_itemsL_more (ts : List Tree) (more : List Item) (outers : List (List Tree)) (inner : List Tree) :
    sm (itemsL ts ++ more) outers inner = sm more outers (inner ++ ts) := by
  cases ts with
  | nil => rw [List.append_nil]; rfl
  | cons t ts => rw [itemsL, List.append_assoc, sm_itemsT t, sm_itemsL_more ts, List.append_assoc]; rfl
end

theorem sm_itemsL (ts : List Tree) : sm (itemsL ts) [] [] = some ts := by
  have := sm_itemsL_more ts [] [] []
  rwa [List.append_nil] at this

/-- the items read so far, recovered from the stack -/
def itemsStack : List (List Tree) → List Tree → List Item
  | [], inner => itemsL inner
  | o :: os, inner => itemsStack os o ++ .lb :: itemsL inner

theorem itemsStack_snoc (outers : List (List Tree)) (inner : List Tree) (t : Tree) :
    itemsStack outers (inner ++ [t]) = itemsStack outers inner ++ itemsT t := by
  cases outers <;> simp [itemsStack, itemsL_append, itemsL]

theorem itemsStack_smStep {i : Item} {outers : List (List Tree)} {inner : List Tree}
    {p : List (List Tree) × List Tree} (h : smStep i outers inner = some p) :
    itemsStack p.1 p.2 = itemsStack outers inner ++ [i] := by
  cases i with
  | lb => cases h; simp [itemsStack, itemsL]
  | rb =>
    cases outers with
    | nil => cases h
    | cons o os => cases h; simp [itemsStack, itemsStack_snoc, itemsT]
  | val v => cases h; exact itemsStack_snoc ..

/-- whatever the machine accepts, the result's items are exactly the items read (same order, same nesting) -/
theorem sm_sound (is : List Item) (outers : List (List Tree)) (inner r : List Tree)
    (h : sm is outers inner = some r) : itemsStack outers inner ++ is = itemsL r := by
  induction is generalizing outers inner with
  | nil =>
    cases outers with
    | nil => cases h; rw [List.append_nil]; rfl
    | cons o os => cases h
  | cons i is ih =>
    rw [sm_cons] at h
    cases hs : smStep i outers inner with
    | none => rw [hs] at h; cases h
    | some p =>
      rw [hs] at h
      rw [← ih _ _ h, itemsStack_smStep hs, List.append_assoc]
      rfl

/-- net bracket depth of a list of token texts: `[` counts +1, `]` counts -1 -/
def net : List (List Char) → Int
  | [] => 0
  | t :: ts => (if t = ['['] then 1 else if t = [']'] then -1 else 0) + net ts

/-- the brackets are balanced: no prefix closes more than it opened, and everything is closed at the end -/
def Balanced (toks : List (List Char)) : Prop :=
  (∀ k, 0 ≤ net (toks.take k)) ∧ net toks = 0

/-- `Balanced` for tokens read at depth `d` -/
def BalancedFrom (d : Int) (toks : List (List Char)) : Prop :=
  (∀ k, 0 ≤ d + net (toks.take k)) ∧ d + net toks = 0

theorem net_cons (t : List Char) (ts : List (List Char)) : net (t :: ts) = net [t] + net ts := by
  simp only [net, Int.add_zero]

theorem BalancedFrom.nonneg {d : Int} {toks : List (List Char)} (h : BalancedFrom d toks) : 0 ≤ d := by
  simpa [net] using h.1 0

theorem balancedFrom_cons (d : Int) (t : List Char) (ts : List (List Char)) :
    BalancedFrom d (t :: ts) ↔ 0 ≤ d ∧ BalancedFrom (d + net [t]) ts := by
  -- the prefixes of `t :: ts` are the empty one and `t` in front of the prefixes of `ts`
  have key : ∀ P : Nat → Prop, (∀ k, P k) ↔ P 0 ∧ ∀ k, P (k + 1) := fun P =>
    ⟨fun h => ⟨h 0, fun k => h _⟩, fun h k => by cases k with | zero => exact h.1 | succ k => exact h.2 k⟩
  rw [BalancedFrom, BalancedFrom, key, and_assoc]
  simp only [List.take_zero, List.take_succ_cons, net_cons t, Int.add_assoc, net, Int.add_zero]

theorem smStep_depth (t : List Char) (outers : List (List Tree)) (inner : List Tree) :
    match smStep (itemOf t) outers inner with
    | some p => (p.1.length : Int) = outers.length + net [t]
    | none => (outers.length : Int) + net [t] < 0 := by
  by_cases h1 : t = ['[']
  · simp [itemOf, smStep, net, h1]
  · by_cases h2 : t = [']']
    · cases outers <;> simp [itemOf, smStep, net, h2] <;> omega
    · simp [itemOf, smStep, net, h1, h2]

theorem sm_isSome_iff (toks : List (List Char)) (outers : List (List Tree)) (inner : List Tree) :
    (sm (toks.map itemOf) outers inner).isSome = true ↔ BalancedFrom outers.length toks := by
  induction toks generalizing outers inner with
  | nil => cases outers <;> simp [sm, BalancedFrom, net] <;> omega
  | cons t ts ih =>
    rw [List.map_cons, sm_cons, balancedFrom_cons]
    have hd := smStep_depth t outers inner
    cases hs : smStep (itemOf t) outers inner with
    | none =>
      rw [hs] at hd
      refine ⟨nofun, fun h => ?_⟩
      have := h.2.nonneg
      omega
    | some p =>
      rw [hs] at hd
      rw [Option.bind_some, ih, hd]
      exact (and_iff_right (Int.natCast_nonneg _)).symm

theorem sm_accepts_iff (toks : List (List Char)) :
    (∃ r, sm (toks.map itemOf) [] [] = some r) ↔ Balanced toks := by
  rw [← Option.isSome_iff_exists, sm_isSome_iff]
  simp only [BalancedFrom, Balanced, List.length_nil, Int.natCast_zero, Int.zero_add]

mutual
/-- every leaf is a valid value -/
def Tree.Valid : Tree → Prop
  | .leaf v => v.Valid
  | .group ts => Tree.ValidL ts
def Tree.ValidL : List Tree → Prop
  | [] => True
  | t :: ts => t.Valid ∧ Tree.ValidL ts
end

theorem Tree.validL_iff (ts : List Tree) : Tree.ValidL ts ↔ ∀ t ∈ ts, t.Valid := by
  induction ts with
  | nil => simp [Tree.ValidL]
  | cons t ts ih => simp [Tree.ValidL, ih]

theorem itemOf_fmtVal {v : Val} (hv : v.Valid) : itemOf (fmtVal v) = .val v := by
  have hb := (fmtVal_atom hv).not_bracket
  simp only [itemOf, if_neg fun h => hb (.inl h), if_neg fun h => hb (.inr h), tokenToValue_fmtVal hv]

mutual
theorem tokensT_spec (t : Tree) (h : t.Valid) :
    (tokensT t).map itemOf = itemsT t ∧ ∀ x ∈ tokensT t, TokText x := by
  cases t with
  | leaf v =>
    rw [Tree.Valid] at h
    rw [tokensT, itemsT, List.map_singleton, itemOf_fmtVal h]
    exact ⟨rfl, List.forall_mem_singleton.mpr (.inr (fmtVal_atom h))⟩
  | group ts =>
    rw [Tree.Valid] at h
    obtain ⟨h1, h2⟩ := tokensL_spec ts h
    rw [tokensT, itemsT, List.map_cons, List.map_append, h1, List.forall_mem_cons, List.forall_mem_append,
      List.forall_mem_singleton]
    exact ⟨rfl, .inl (.inl rfl), h2, .inl (.inr rfl)⟩
theorem tokensL_spec (ts : List Tree) (h : Tree.ValidL ts) :
    (tokensL ts).map itemOf = itemsL ts ∧ ∀ x ∈ tokensL ts, TokText x := by
  cases ts with
  | nil => exact ⟨rfl, nofun⟩
  | cons t ts =>
    rw [Tree.ValidL] at h
    obtain ⟨h1, h2⟩ := tokensT_spec t h.1
    obtain ⟨h3, h4⟩ := tokensL_spec ts h.2
    rw [tokensL, itemsL, List.map_append, h1, h3, List.forall_mem_append]
    exact ⟨rfl, h2, h4⟩
end

theorem tokensL_ne_nil {ts : List Tree} (h : ts ≠ []) : tokensL ts ≠ [] := by
  cases ts with
  | nil => exact absurd rfl h
  | cons t ts' => cases t <;> simp [tokensL, tokensT]

/-- the runs are white space, and an empty run is allowed only next to a bracket -/
def LayoutOK : List (List Char × List Char) → Prop
  | [] => True
  | [p] => ∀ c ∈ p.2, isSpace c = true
  | p :: q :: rest =>
    (∀ c ∈ p.2, isSpace c = true) ∧ (p.2 = [] → IsBracket p.1 ∨ IsBracket q.1) ∧ LayoutOK (q :: rest)

theorem layoutOK_cons (p : List Char × List Char) (lay : List (List Char × List Char)) :
    LayoutOK (p :: lay) ↔ (∀ c ∈ p.2, isSpace c = true) ∧
      (∀ q ∈ lay.head?, p.2 = [] → IsBracket p.1 ∨ IsBracket q.1) ∧ LayoutOK lay := by
  cases lay <;> simp [LayoutOK]

theorem render_cons_head (q : List Char × List Char) (rest : List (List Char × List Char))
    (h : TokText q.1) : ∃ c r, render (q :: rest) = c :: r ∧ isSpace c = false := by
  obtain ⟨c, r, hq, hc⟩ := h.head
  exact ⟨c, _, by rw [render, hq]; rfl, hc⟩

theorem render_noLead (lay : List (List Char × List Char)) (ht : ∀ p ∈ lay, TokText p.1) :
    NoLead isSpace (render lay) := by
  cases lay with
  | nil => nofun
  | cons q rest =>
    obtain ⟨c, r, h, hc⟩ := render_cons_head q rest (ht q (List.mem_cons_self ..))
    rw [h]
    rintro _ _ ⟨⟩
    exact hc

theorem LayoutOK.delim {p : List Char × List Char} {rest : List (List Char × List Char)}
    (hl : LayoutOK (p :: rest)) (ha : AtomText p.1) : Delim (p.2 ++ render rest) := by
  obtain ⟨hws, hadj, -⟩ := (layoutOK_cons p rest).mp hl
  cases hp2 : p.2 with
  | cons c w => exact Delim.of_space (hws c (hp2 ▸ List.mem_cons_self ..))
  | nil =>
    cases rest with
    | nil => exact ⟨rfl, nofun, nofun⟩
    | cons q rest' =>
      rcases hadj q rfl hp2 with h | h
      · exact absurd h ha.not_bracket
      · rw [List.nil_append, render]
        rcases h with h | h <;> rw [h] <;> exact Delim.of_bracket (by simp)

theorem tokenizeLoop_render (lay : List (List Char × List Char)) (hne : lay ≠ [])
    (ht : ∀ p ∈ lay, TokText p.1) (hl : LayoutOK lay) (fuel : Nat) (hf : (render lay).length < fuel) :
    tokenizeLoop fuel (render lay) = .ok (lay.map Prod.fst) := by
  induction lay generalizing fuel with
  | nil => exact absurd rfl hne
  | cons p rest ih =>
    obtain ⟨hp, htr⟩ := List.forall_mem_cons.mp ht
    obtain ⟨hws, -, hlr⟩ := (layoutOK_cons p rest).mp hl
    have hnext : nextToken (p.1 ++ (p.2 ++ render rest)) = .ok p.1 := by
      rcases hp with hb | ha
      · rcases hb with hb | hb <;> rw [hb] <;> exact nextToken_bracket (by simp) _
      · exact nextToken_atom ha (hl.delim ha)
    -- the token takes at least one character, so one unit of fuel less is enough for the rest
    obtain ⟨fuel, rfl⟩ : ∃ f, fuel = f + 1 := ⟨fuel - 1, by omega⟩
    have hfr : (render rest).length < fuel := by
      obtain ⟨c, t, hc, -⟩ := hp.head
      rw [render, hc, List.length_append, List.length_append, List.length_cons] at hf
      omega
    rw [render, List.append_assoc, tokenizeLoop_ok hnext,
      lstrip_append_of_spaces _ _ hws (render_noLead rest htr)]
    cases rest with
    | nil => rfl
    | cons q rest' =>
      obtain ⟨c, r, h, -⟩ := render_cons_head q rest' (htr q (List.mem_cons_self ..))
      rw [if_neg (by rw [h]; nofun), ih (by nofun) htr hlr fuel hfr]
      rfl

/-- canonical layout: a single blank where `needSpace` asks for one -/
def canonLayout : List (List Char) → List (List Char × List Char)
  | [] => []
  | [a] => [(a, [])]
  | a :: b :: rest => (a, if needSpace a b then [' '] else []) :: canonLayout (b :: rest)

theorem canonLayout_fst (toks : List (List Char)) : (canonLayout toks).map Prod.fst = toks := by
  induction toks with
  | nil => rfl
  | cons a rest ih =>
    cases rest with
    | nil => rfl
    | cons b rest' => rw [canonLayout, List.map_cons, ih]

theorem render_canonLayout (toks : List (List Char)) : render (canonLayout toks) = joinTokens toks := by
  induction toks with
  | nil => rfl
  | cons a rest ih =>
    cases rest with
    | nil => simp [canonLayout, render, joinTokens]
    | cons b rest' => rw [canonLayout, render, joinTokens, ih]

theorem canonLayout_ok (toks : List (List Char)) : LayoutOK (canonLayout toks) := by
  induction toks with
  | nil => trivial
  | cons a rest ih =>
    cases rest with
    | nil => exact nofun
    | cons b rest' =>
      rw [canonLayout, layoutOK_cons]
      refine ⟨?_, ?_, ih⟩
      · intro c hc
        split at hc
        · cases List.mem_singleton.mp hc; decide
        · cases hc
      · intro q hq he
        have hq : q.1 = b := by cases rest' <;> cases hq <;> rfl
        by_cases hn : a = ['['] ∨ b = [']']
        · exact hn.imp .inl fun h => .inr (hq ▸ h)
        · simp [needSpace, hn] at he

end IsobarV.Notation
