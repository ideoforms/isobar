/-
Playing a parsed (nested) sequence: `next()` on sequences without empty groups (`PS.live`), whole cycles, and the
closed form `nthT` of the output.
-/
import IsobarV.Notation.Lemmas

namespace IsobarV.Notation

/-- induction over a sequence, the elements of a group taken as a list -/
theorem PS.induct {P : PS → Prop} (leaf : ∀ v, P (.leaf v))
    (seq : ∀ items pos, (∀ x ∈ items, P x) → P (.seq items pos)) (s : PS) : P s :=
  PS.rec (motive_2 := fun items => ∀ x ∈ items, P x) leaf seq nofun
    (fun _ _ h1 h2 => List.forall_mem_cons.mpr ⟨h1, h2⟩) s

theorem Tree.induct {P : Tree → Prop} (leaf : ∀ v, P (.leaf v))
    (group : ∀ ts, (∀ t ∈ ts, P t) → P (.group ts)) (t : Tree) : P t :=
  Tree.rec (motive_2 := fun ts => ∀ t ∈ ts, P t) leaf group nofun
    (fun _ _ h1 h2 => List.forall_mem_cons.mpr ⟨h1, h2⟩) t

/-- the state after `n` calls of `next()` -/
def PS.after : Nat → PS → PS
  | 0, s => s
  | n + 1, s => PS.after n s.next.st

/-- the result of the `n`-th call of `next()` (0-based) -/
def PS.outAt (s : PS) (n : Nat) : Out := (PS.after n s).next.out

mutual
/-- no empty sequence anywhere, every `pos` inside its sequence -/
def PS.live : PS → Bool
  | .leaf _ => true
  | .seq items pos => !items.isEmpty && decide (pos < items.length) && PS.liveL items
def PS.liveL : List PS → Bool
  | [] => true
  | x :: xs => x.live && PS.liveL xs
end

theorem PS.liveL_iff (items : List PS) : PS.liveL items = true ↔ ∀ x ∈ items, x.live = true := by
  induction items with
  | nil => simp [PS.liveL]
  | cons x xs ih => simp [PS.liveL, ih]

theorem PS.live_seq (items : List PS) (pos : Nat) :
    (PS.seq items pos).live = true ↔ pos < items.length ∧ ∀ x ∈ items, x.live = true := by
  rw [PS.live, Bool.and_eq_true, Bool.and_eq_true, PS.liveL_iff, decide_eq_true_eq]
  refine ⟨fun h => ⟨h.1.2, h.2⟩, fun h => ⟨⟨?_, h.1⟩, h.2⟩⟩
  cases items with
  | nil => exact absurd h.1 (Nat.not_lt_zero _)
  | cons _ _ => rfl

theorem PS.after_add (m n : Nat) (s : PS) : PS.after (m + n) s = PS.after n (PS.after m s) := by
  induction m generalizing s with
  | zero => rw [Nat.zero_add]; rfl
  | succ m ih => rw [Nat.add_right_comm]; exact ih _

theorem PS.run_add (m n : Nat) (s : PS) : PS.run (m + n) s = PS.run m s ++ PS.run n (PS.after m s) := by
  induction m generalizing s with
  | zero => rw [Nat.zero_add]; rfl
  | succ m ih => rw [Nat.add_right_comm, PS.run, PS.run, ih]; rfl

theorem PS.run_eq_map_outAt (n : Nat) (s : PS) : PS.run n s = (List.range n).map (PS.outAt s) := by
  induction n with
  | zero => rfl
  | succ n ih => rw [PS.run_add n 1 s, ih, List.range_succ, List.map_append]; rfl

theorem PS.nextAt_append (pre : List PS) (x : PS) (suf : List PS) :
    PS.nextAt (pre ++ x :: suf) pre.length = ⟨x.next.out, pre ++ x.next.st :: suf⟩ := by
  induction pre with
  | nil => rfl
  | cons p pre ih => rw [List.cons_append, List.length_cons, PS.nextAt, ih]; rfl

theorem PS.after_leaf (n : Nat) (v : Val) : PS.after n (.leaf v) = .leaf v := by
  induction n with
  | zero => rfl
  | succ n ih => rw [PS.after, PS.next]; exact ih

theorem split_at {α : Type} {l : List α} {i : Nat} {x : α} (h : l[i]? = some x) :
    ∃ pre suf, l = pre ++ x :: suf ∧ pre.length = i := by
  obtain ⟨hi, rfl⟩ := List.getElem?_eq_some_iff.mp h
  exact ⟨l.take i, l.drop (i + 1), by rw [List.getElem_cons_drop, List.take_append_drop],
    List.length_take_of_le (Nat.le_of_lt hi)⟩

theorem PS.next_seq_of {pre : List PS} {x : PS} {suf : List PS} {v : Val} (hv : x.next.out = .val v) :
    (PS.seq (pre ++ x :: suf) pre.length).next =
      ⟨x.next.out, .seq (pre ++ x.next.st :: suf) (if suf.isEmpty then 0 else pre.length + 1)⟩ := by
  have hne : (pre ++ x :: suf).isEmpty = false := by simp
  simp only [PS.next, hne, PS.nextAt_append, hv, Bool.false_eq_true, if_false]
  cases suf <;> simp

theorem PS.next_live (s : PS) : s.live = true → ∃ v, s.next.out = .val v ∧ s.next.st.live = true := by
  induction s using PS.induct with
  | leaf v => exact fun _ => ⟨v, rfl, rfl⟩
  | seq items pos ih =>
    intro h
    obtain ⟨hpos, hl⟩ := (PS.live_seq ..).mp h
    obtain ⟨x, hx⟩ : ∃ x, items[pos]? = some x := ⟨_, List.getElem?_eq_getElem hpos⟩
    obtain ⟨pre, suf, rfl, rfl⟩ := split_at hx
    rw [List.forall_mem_append, List.forall_mem_cons] at ih hl
    obtain ⟨v, hv, hst⟩ := ih.2.1 hl.2.1
    rw [PS.next_seq_of hv, PS.live_seq, List.forall_mem_append, List.forall_mem_cons]
    refine ⟨v, hv, ?_, hl.1, hst, hl.2.2⟩
    cases suf <;> simp

theorem PS.nextAt_live (items : List PS) (i : Nat) (h : PS.liveL items = true) (hi : i < items.length) :
    ∃ v, (PS.nextAt items i).out = .val v ∧ PS.liveL (PS.nextAt items i).st = true ∧
      (PS.nextAt items i).st.length = items.length := by
  obtain ⟨x, hx⟩ : ∃ x, items[i]? = some x := ⟨_, List.getElem?_eq_getElem hi⟩
  obtain ⟨pre, suf, rfl, rfl⟩ := split_at hx
  rw [PS.liveL_iff, List.forall_mem_append, List.forall_mem_cons] at h
  obtain ⟨v, hv, hst⟩ := PS.next_live x h.2.1
  rw [PS.nextAt_append, PS.liveL_iff, List.forall_mem_append, List.forall_mem_cons]
  exact ⟨v, hv, ⟨h.1, hst, h.2.2⟩, by simp⟩

theorem PS.after_live (n : Nat) (s : PS) (h : s.live = true) : (PS.after n s).live = true := by
  induction n generalizing s with
  | zero => exact h
  | succ n ih => exact ih _ (PS.next_live s h).choose_spec.2

theorem PS.next_seq (pre : List PS) {x : PS} (suf : List PS) (hx : x.live = true) :
    (PS.seq (pre ++ x :: suf) pre.length).next =
      ⟨x.next.out, .seq (pre ++ x.next.st :: suf) (if suf.isEmpty then 0 else pre.length + 1)⟩ :=
  PS.next_seq_of (PS.next_live x hx).choose_spec.1

/-- part of a cycle: the elements `a` are each advanced once, in order; after the last element of the
sequence the position is 0 again -/
theorem PS.partial_cycle (pre a b : List PS) (ha : ∀ x ∈ a, x.live = true) (hab : a = [] → b ≠ []) :
    PS.run a.length (.seq (pre ++ (a ++ b)) pre.length) = a.map (fun x => x.next.out) ∧
    PS.after a.length (.seq (pre ++ (a ++ b)) pre.length) =
      .seq (pre ++ (a.map (fun x => x.next.st) ++ b)) (if b.isEmpty then 0 else pre.length + a.length) := by
  induction a generalizing pre with
  | nil =>
    have : b.isEmpty = false := List.isEmpty_eq_false_iff.mpr (hab rfl)
    rw [this]
    exact ⟨rfl, rfl⟩
  | cons x a ih =>
    obtain ⟨hx, ha⟩ := List.forall_mem_cons.mp ha
    rw [List.length_cons, PS.run, PS.after, List.cons_append, PS.next_seq pre (a ++ b) hx]
    by_cases hs : a ++ b = []
    · obtain ⟨rfl, rfl⟩ := List.append_eq_nil_iff.mp hs
      exact ⟨rfl, rfl⟩
    · have ih' := ih (pre ++ [x.next.st]) ha fun h => by rwa [h] at hs
      rw [← List.append_cons, ← List.append_cons, List.length_append, List.length_singleton,
        Nat.add_right_comm] at ih'
      rw [if_neg (by simpa using hs), ih'.1, ih'.2]
      exact ⟨rfl, rfl⟩

theorem PS.full_cycle (items : List PS) (hne : items ≠ []) (hl : ∀ x ∈ items, x.live = true) :
    PS.run items.length (.seq items 0) = items.map (fun x => x.next.out) ∧
    PS.after items.length (.seq items 0) = .seq (items.map (fun x => x.next.st)) 0 := by
  simpa using PS.partial_cycle [] items [] hl (fun h => absurd h hne)

theorem PS.after_cycles (items : List PS) (hne : items ≠ []) (hl : ∀ x ∈ items, x.live = true) (k : Nat) :
    PS.after (k * items.length) (.seq items 0) = .seq (items.map (PS.after k)) 0 := by
  induction k with
  | zero => rw [Nat.zero_mul, PS.after]; exact congrArg (PS.seq · 0) (List.map_id' _).symm
  | succ k ih =>
    have hl' : ∀ x ∈ items.map (PS.after k), x.live = true :=
      List.forall_mem_map.mpr fun y hy => PS.after_live k y (hl y hy)
    have := (PS.full_cycle _ (by simpa using hne) hl').2
    rw [List.length_map] at this
    rw [Nat.succ_mul, PS.after_add, ih, this, List.map_map]
    exact congrArg (PS.seq · 0) (List.map_congr_left fun x _ => (PS.after_add k 1 x).symm)

/-- the `(k·w + i)`-th result of a sequence of width `w` is the `k`-th result of its `i`-th element:
in every cycle of the parent each element is asked exactly once -/
theorem PS.outAt_seq (items : List PS) (hl : ∀ x ∈ items, x.live = true) (k i : Nat) (x : PS)
    (hx : items[i]? = some x) :
    PS.outAt (.seq items 0) (k * items.length + i) = PS.outAt x k := by
  obtain ⟨pre, suf, rfl, rfl⟩ := split_at hx
  have hl' : ∀ y ∈ (pre ++ x :: suf).map (PS.after k), y.live = true :=
    List.forall_mem_map.mpr fun y hy => PS.after_live k y (hl y hy)
  rw [List.map_append, List.map_cons, List.forall_mem_append, List.forall_mem_cons] at hl'
  have hc := (PS.partial_cycle [] (pre.map (PS.after k)) (PS.after k x :: suf.map (PS.after k)) hl'.1 nofun).2
  simp only [List.nil_append, List.length_nil, Nat.zero_add, List.length_map, List.isEmpty_cons,
    Bool.false_eq_true, if_false] at hc
  have := PS.next_seq ((pre.map (PS.after k)).map fun y => y.next.st) (suf.map (PS.after k)) hl'.2.1
  rw [List.length_map, List.length_map] at this
  rw [PS.outAt, PS.after_add, PS.after_cycles _ (by simp) hl, List.map_append, List.map_cons, hc, this]
  rfl

mutual
/-- no empty group anywhere -/
def Tree.full : Tree → Bool
  | .leaf _ => true
  | .group ts => !ts.isEmpty && Tree.fullL ts
def Tree.fullL : List Tree → Bool
  | [] => true
  | t :: ts => t.full && Tree.fullL ts
end

mutual
/-- **Closed form of the output.**  The `n`-th value (0-based) of a group of width `w` is its element
`n % w` when that is a scalar, and the `(n / w)`-th value of that element when it is a group. -/
def nthT : Tree → Nat → Option Val
  | .leaf v, _ => some v
  | .group ts, n => if ts.isEmpty then none else nthAt ts (n % ts.length) (n / ts.length)
/-- `nthAt ts i k`: the `k`-th value of the `i`-th element of `ts` -/
def nthAt : List Tree → Nat → Nat → Option Val
  | [], _, _ => none
  | t :: _, 0, k => nthT t k
  | _ :: ts, i + 1, k => nthAt ts i k
end

def outOf : Option Val → Out
  | some v => .val v
  | none => .stop

theorem Tree.fullL_iff (ts : List Tree) : Tree.fullL ts = true ↔ ∀ t ∈ ts, t.full = true := by
  induction ts with
  | nil => simp [Tree.fullL]
  | cons t ts ih => simp [Tree.fullL, ih]

theorem PS.ofTrees_eq_map (ts : List Tree) : PS.ofTrees ts = ts.map PS.ofTree := by
  induction ts with
  | nil => rfl
  | cons t ts ih => rw [PS.ofTrees, ih]; rfl

theorem nthAt_eq (ts : List Tree) (i k : Nat) (hi : i < ts.length) : nthAt ts i k = nthT ts[i] k := by
  induction ts generalizing i with
  | nil => cases hi
  | cons t ts ih =>
    cases i with
    | zero => rfl
    | succ i => exact ih i (Nat.lt_of_succ_lt_succ hi)

theorem PS.live_ofTree (t : Tree) (h : t.full = true) : (PS.ofTree t).live = true := by
  induction t using Tree.induct with
  | leaf v => rfl
  | group ts ih =>
    rw [Tree.full, Bool.and_eq_true, Bool.not_eq_true', List.isEmpty_eq_false_iff, Tree.fullL_iff] at h
    rw [PS.ofTree, PS.ofTrees_eq_map, PS.live_seq, List.length_map]
    exact ⟨List.length_pos_iff.mpr h.1, List.forall_mem_map.mpr fun t ht => ih t ht (h.2 t ht)⟩

theorem PS.outAt_ofTree (t : Tree) (h : t.full = true) (n : Nat) :
    PS.outAt (PS.ofTree t) n = outOf (nthT t n) := by
  induction t using Tree.induct generalizing n with
  | leaf v => rw [PS.ofTree, PS.outAt, PS.after_leaf]; rfl
  | group ts ih =>
    have hlive := (PS.live_seq ..).mp (PS.live_ofTree _ h)
    rw [Tree.full, Bool.and_eq_true, Bool.not_eq_true', Tree.fullL_iff] at h
    rw [PS.ofTrees_eq_map, List.length_map] at hlive
    have hi : n % ts.length < ts.length := Nat.mod_lt _ hlive.1
    have hx : (ts.map PS.ofTree)[n % ts.length]? = some (PS.ofTree ts[n % ts.length]) := by
      rw [List.getElem?_map, List.getElem?_eq_getElem hi]; rfl
    have := PS.outAt_seq _ hlive.2 (n / ts.length) _ _ hx
    rw [List.length_map, Nat.div_add_mod'] at this
    show PS.outAt (.seq (PS.ofTrees ts) 0) n = _
    rw [PS.ofTrees_eq_map, this, nthT, h.1, if_neg Bool.false_ne_true, nthAt_eq ts _ _ hi]
    exact ih _ (List.getElem_mem hi) (h.2 _ (List.getElem_mem hi)) _

theorem PS.outAt_ofTrees (ts : List Tree) (h : Tree.fullL ts = true) (i k : Nat) (x : PS)
    (hx : (PS.ofTrees ts)[i]? = some x) : PS.outAt x k = outOf (nthAt ts i k) := by
  rw [PS.ofTrees_eq_map, List.getElem?_map, Option.map_eq_some_iff] at hx
  obtain ⟨t, ht, rfl⟩ := hx
  obtain ⟨hi, rfl⟩ := List.getElem?_eq_some_iff.mp ht
  rw [nthAt_eq ts i k hi]
  exact PS.outAt_ofTree _ ((Tree.fullL_iff ts).mp h _ (List.getElem_mem hi)) k

end IsobarV.Notation
