/-
Interpolated control tracks: the reference trace (a closed form over the list of control points) and the
proof that the state machine of `IsobarV/Interp/Model.lean` produces exactly it, for every list of
points, every `count`, every run length and every easing `f`.  Helper lemmas for `IsobarV/Props/C15.lean`.
-/
import IsobarV.Interp.Model
-- Mathlib is here for the order and field structure of `Rat` with its lemmas (`ratio_self`, `hull`, `msgAt_value_hull`, the
-- `simp` of `stepTable_getLast`) and for `List.eq_nil_or_concat'`; none of its tactics is called.
import Mathlib.Tactic.Linarith
import Mathlib.Tactic.Positivity
import Mathlib.Tactic.Ring
import Mathlib.Algebra.Order.Field.Basic

namespace IsobarV.Interp

/-- a field `j` ticks into a segment of `D` ticks from `x` to `y` -/
def fldAt (f : Rat → Rat) (x y : Fld) (D j : Nat) : Fld :=
  match x, y with
  | .opq s, _ => .opq s
  | .num a, .num b => .num (a + (b - a) * f (ratio j D))
  | .num a, .opq _ => .num a

/-- the message `j` ticks into the segment from `a` to `b` -/
def msgAt (f : Rat → Rat) (a b : Pt) (j : Nat) : Msg :=
  { control := fldAt f a.control b.control a.dur j,
    value := a.value + (b.value - a.value) * f (ratio j a.dur),
    channel := fldAt f a.channel b.channel a.dur j }

/-- the message of the very first tick: the first control point as it is -/
def firstMsg (a : Pt) : Msg := { control := a.control, value := a.value, channel := a.channel }

/-- a numeric field may not be followed by a non-numeric one (`target - self.value` would raise) -/
def fcompat : Fld → Fld → Bool
  | .num _, .opq _ => false
  | _, _ => true

def compat (a b : Pt) : Bool := fcompat a.control b.control && fcompat a.channel b.channel

/-- both ends of a segment are control events -/
def kindsOK (a b : Pt) : Bool := a.kind == .control && b.kind == .control

/-- the messages of ticks `1 … a.dur` of the segment from `a` to `b` -/
def segMsgs (f : Rat → Rat) (a b : Pt) : List Outcome :=
  (List.range' 1 a.dur).map fun j => Outcome.msg (msgAt f a b j)

/-- what follows the tick in which the head of the list was reached -/
def refFrom (f : Rat → Rat) : List Pt → List Outcome
  | [] => [.finished]
  | a :: tl =>
    match tl with
    | [] => [.finished]
    | b :: _ =>
      if a.dur = 0 then refFrom f tl
      else if !kindsOK a b then [.rejected]
      else if !compat a b then [.typeError]
      else segMsgs f a b ++ refFrom f tl

/-- leading points of zero ticks are dropped -/
def dropZero : List Pt → List Pt
  | [] => []
  | a :: tl => if a.dur = 0 then dropZero tl else a :: tl

/-- number of leading points of zero ticks = index of the first point that is played -/
def firstIdx : List Pt → Nat
  | [] => 0
  | a :: tl => if a.dur = 0 then firstIdx tl + 1 else 0

/-- the reference trace of a track over the points `pts` (entry `k` = tick `n₀ + k`) -/
def ref (f : Rat → Rat) (pts : List Pt) : List Outcome :=
  match dropZero pts with
  | a :: b :: rest => if !kindsOK a b then [.rejected] else .msg (firstMsg a) :: refFrom f (a :: b :: rest)
  | _ => [.finished]

/-- `count`: the events `get_next_event` will deliver -/
def eff (count : Nat) (pts : List Pt) : List Pt := if count = 0 then pts else pts.take count

theorem kindsOK_eq_false {a b : Pt} : kindsOK a b = false ↔ a.kind ≠ .control ∨ b.kind ≠ .control := by
  simp only [kindsOK, Bool.and_eq_false_iff, beq_eq_false_iff_ne]

theorem kindsOK_eq_true {a b : Pt} : kindsOK a b = true ↔ a.kind = .control ∧ b.kind = .control := by
  simp only [kindsOK, Bool.and_eq_true, beq_iff_eq]

theorem dropZero_head {L : List Pt} {c : Pt} {tl : List Pt} (h : dropZero L = c :: tl) : c.dur ≠ 0 := by
  induction L with
  | nil => cases h
  | cons a r ih =>
    rw [dropZero] at h
    split at h
    · exact ih h
    · cases h; assumption

theorem dropZero_eq_drop : ∀ L : List Pt, dropZero L = L.drop (firstIdx L)
  | [] => rfl
  | a :: tl => by
    rw [dropZero, firstIdx]
    split
    · exact dropZero_eq_drop tl
    · rfl

theorem dropZero_length (L : List Pt) : (dropZero L).length ≤ L.length := by
  rw [dropZero_eq_drop, List.length_drop]; exact Nat.sub_le _ _

theorem refFrom_cons₂ (f : Rat → Rat) (a b : Pt) (r : List Pt) :
    refFrom f (a :: b :: r) = if a.dur = 0 then refFrom f (b :: r) else if !kindsOK a b then [.rejected]
      else if !compat a b then [.typeError] else segMsgs f a b ++ refFrom f (b :: r) := rfl

theorem refFrom_short (f : Rat → Rat) : ∀ {L : List Pt}, L.length < 2 → refFrom f L = [.finished]
  | [], _ | [_], _ => rfl
  | _ :: _ :: _, h => nomatch h

theorem refFrom_dropZero (f : Rat → Rat) (L : List Pt) : refFrom f (dropZero L) = refFrom f L := by
  induction L with
  | nil => rfl
  | cons a r ih =>
    rw [dropZero]
    split
    · rename_i h0
      cases r with
      | nil => rfl
      | cons b r' => rw [ih, refFrom_cons₂, if_pos h0]
    · rfl

theorem ref_of_short (f : Rat → Rat) {pts : List Pt} (h : (dropZero pts).length < 2) : ref f pts = [.finished] := by
  unfold ref
  split
  · rename_i e; rw [e] at h; exact nomatch h
  · rfl

theorem ref_of_cons (f : Rat → Rat) {pts : List Pt} {a b : Pt} {rest : List Pt} (h : dropZero pts = a :: b :: rest) :
    ref f pts = if !kindsOK a b then [.rejected] else .msg (firstMsg a) :: refFrom f (a :: b :: rest) := by
  rw [ref, h]

/-- the outcomes from a set-up over the points `X` on: in the track's first tick (`first`) the first point that is
    played is sent as it is, later the first value of the new segment is discarded -/
def refSetup (f : Rat → Rat) (first : Bool) (X : List Pt) : List Outcome := if first then ref f X else refFrom f X

theorem refSetup_short (f : Rat → Rat) (first : Bool) {X : List Pt} (h : (dropZero X).length < 2) :
    refSetup f first X = [.finished] := by
  cases first
  · exact (refFrom_dropZero f X).symm.trans (refFrom_short f h)
  · exact ref_of_short f h

theorem refSetup_cons (f : Rat → Rat) (first : Bool) {X : List Pt} {a b : Pt} {rest : List Pt}
    (h : dropZero X = a :: b :: rest) :
    refSetup f first X = if !kindsOK a b then [.rejected]
      else (if first then [.msg (firstMsg a)] else []) ++ refFrom f (a :: b :: rest) := by
  cases first
  · refine (refFrom_dropZero f X).symm.trans ?_
    rw [h]
    cases hk : kindsOK a b
    · rw [refFrom_cons₂, if_neg (dropZero_head h), hk]; rfl
    · rfl
  · exact ref_of_cons f h

theorem stepTable_length (f : Rat → Rat) (A B : Rat) (D : Nat) : (stepTable f A B D).length = D := by
  simp only [stepTable, List.length_map, List.length_range]

theorem stepTable_getD (f : Rat → Rat) (A B : Rat) {D j : Nat} (h : j < D) :
    (stepTable f A B D).getD j 0 = A + (B - A) * f (ratio (j + 1) D) := by
  simp [stepTable, List.getD, h]

/-- the `PInterpolate` over `[A, B]` with `D` steps after it has yielded `A` and `j` values of its table: before the
    table is built (`j = 0`) the target is still in the wrapped pattern -/
def piAt (f : Rat → Rat) (A B : Rat) (D : Nat) : Nat → PI
  | 0 => { value := A, table := [A], pos := 1, src := [B], steps := D }
  | j + 1 =>
    { value := A + (B - A) * f (ratio (j + 1) D), table := stepTable f A B D, pos := j + 1, src := [], steps := D }

theorem start_next (f : Rat → Rat) (A B : Rat) (D : Nat) :
    (PI.start A [B] D).next f = { out := .val A, pi := piAt f A B D 0 } := rfl

theorem piAt_next (f : Rat → Rat) (A B : Rat) {D j : Nat} (h : j < D) :
    (piAt f A B D j).next f = { out := .val (A + (B - A) * f (ratio (j + 1) D)), pi := piAt f A B D (j + 1) } := by
  have hD : D ≠ 0 := Nat.ne_zero_of_lt h
  cases j with
  | zero =>
    simp only [piAt, PI.next, List.length_cons, List.length_nil, Nat.lt_irrefl, ↓reduceIte, hD, stepTable_getD f A B h]
  | succ j => simp only [piAt, PI.next, stepTable_length, h, ↓reduceIte, stepTable_getD f A B h]

theorem piAt_stop (f : Rat → Rat) (A B : Rat) {D : Nat} (hD : D ≠ 0) :
    (piAt f A B D D).next f = { out := .stop, pi := piAt f A B D D } := by
  obtain ⟨k, rfl⟩ := Nat.exists_eq_succ_of_ne_zero hD
  simp only [piAt, PI.next, stepTable_length, Nat.lt_irrefl, ↓reduceIte, Nat.succ_ne_zero]

/-- the interpolator of a field at the same stage; a numeric field before a non-numeric one has none (`.bad`) -/
def fiAt (f : Rat → Rat) (x y : Fld) (D j : Nat) : FI :=
  match x, y with
  | .opq s, _ => .const (.opq s)
  | .num a, .num b => .interp (piAt f a b D j)
  | .num a, .opq _ => .bad a false

theorem mkFI_next (f : Rat → Rat) (x y : Fld) (D : Nat) :
    (mkFI x y D).next f = { out := .val x, fi := fiAt f x y D 0 } := by
  cases x <;> cases y <;> rfl

theorem fiAt_next (f : Rat → Rat) {x y : Fld} {D j : Nat} (h : j < D) (hc : fcompat x y = true) :
    (fiAt f x y D j).next f = { out := .val (fldAt f x y D (j + 1)), fi := fiAt f x y D (j + 1) } := by
  match x, y, hc with
  | .opq _, _, _ => rfl
  | .num a, .num b, _ => simp only [fiAt, FI.next, piAt_next f a b h, fldAt]

theorem fiAt_next_bad (f : Rat → Rat) {x y : Fld} {D j : Nat} (hc : fcompat x y = false) :
    ((fiAt f x y D j).next f).out = .typeError := by
  match x, y, hc with
  | .num _, .opq _, _ => rfl

/-- at the end of the table a numeric field stops, any other field keeps yielding its constant; the state
    does not change -/
theorem fiAt_end (f : Rat → Rat) {x y : Fld} {D : Nat} (hD : D ≠ 0) (hc : fcompat x y = true) :
    ∃ o, o ≠ .typeError ∧ (fiAt f x y D D).next f = { out := o, fi := fiAt f x y D D } := by
  match x, y, hc with
  | .opq s, _, _ => exact ⟨.val (.opq s), nofun, rfl⟩
  | .num a, .num b, _ => exact ⟨.stop, nofun, by simp only [fiAt, FI.next, piAt_stop f a b hD]⟩

/-- the segment from `a` to `b` after `j` ticks: its three interpolators at stage `j` -/
def segAt (f : Rat → Rat) (a b : Pt) (j : Nat) : Seg :=
  { control := fiAt f a.control b.control a.dur j,
    value := piAt f a.value b.value a.dur j,
    channel := fiAt f a.channel b.channel a.dur j }

theorem buildSeg_next (f : Rat → Rat) (a b : Pt) :
    (buildSeg a b).next f = { out := .msg (firstMsg a), seg := segAt f a b 0 } := by
  simp only [buildSeg, Seg.next, mkFI_next, start_next, firstMsg, segAt]

theorem segAt_next (f : Rat → Rat) {a b : Pt} {j : Nat} (h : j < a.dur) (hc : compat a b = true) :
    (segAt f a b j).next f = { out := .msg (msgAt f a b (j + 1)), seg := segAt f a b (j + 1) } := by
  obtain ⟨h1, h2⟩ := Bool.and_eq_true_iff.mp hc
  simp only [segAt, Seg.next, fiAt_next f h h1, fiAt_next f h h2, piAt_next f _ _ h, msgAt]

theorem segAt_next_bad (f : Rat → Rat) {a b : Pt} {j : Nat} (h : j < a.dur) (hc : compat a b = false) :
    ((segAt f a b j).next f).out = .typeError := by
  cases h1 : fcompat a.control b.control
  · simp only [segAt, Seg.next, fiAt_next_bad f h1]
  · have h2 : fcompat a.channel b.channel = false := by simpa only [compat, h1, Bool.true_and] using hc
    simp only [segAt, Seg.next, fiAt_next f h h1, piAt_next f _ _ h, fiAt_next_bad f h2]

theorem segAt_stop (f : Rat → Rat) {a b : Pt} (hD : a.dur ≠ 0) (hc : compat a b = true) :
    (segAt f a b a.dur).next f = { out := .stop, seg := segAt f a b a.dur } := by
  obtain ⟨o, ho, e⟩ := fiAt_end f (y := b.control) hD (Bool.and_eq_true_iff.mp hc).1
  cases o with
  | typeError => exact absurd rfl ho
  | _ => simp only [segAt, Seg.next, e, piAt_stop f _ _ hD]

/-- what `get_next_event` will still deliver -/
def remOf (mx : Nat) (stream : List Pt) (count : Nat) : List Pt :=
  if mx = 0 then stream else stream.take (mx - count)

def Track.rem (t : Track) : List Pt := remOf t.maxCount t.stream t.count

theorem remOf_nil (mx count : Nat) : remOf mx [] count = [] := by
  simp only [remOf, List.take_nil, ite_self]

theorem remOf_cons_of_not_limit {mx count : Nat} (e : Pt) (r : List Pt) (h : limitReached mx count = false) :
    remOf mx (e :: r) count = e :: remOf mx r (count + 1) := by
  unfold remOf
  by_cases h0 : mx = 0
  · simp only [h0, if_true]
  · have hlt : count < mx := by simpa [limitReached, h0] using h
    rw [if_neg h0, if_neg h0, ← Nat.sub_add_cancel (Nat.sub_pos_of_lt hlt), List.take_succ_cons]; rfl

theorem remOf_of_limit {mx count : Nat} (s : List Pt) (h : limitReached mx count = true) : remOf mx s count = [] := by
  simp [limitReached] at h
  rw [remOf, if_neg h.1, Nat.sub_eq_zero_of_le h.2, List.take_zero]

theorem getNext_rem (t : Track) :
    t.getNext = none ∧ t.rem = [] ∨
      ∃ e s', t.getNext = some { ev := e, track := { t with stream := s', count := t.count + 1 } } ∧
        t.rem = e :: remOf t.maxCount s' (t.count + 1) := by
  unfold Track.getNext Track.rem
  cases hl : limitReached t.maxCount t.count
  · cases t.stream with
    | nil => exact .inl ⟨rfl, remOf_nil _ _⟩
    | cons e r => exact .inr ⟨e, r, rfl, remOf_cons_of_not_limit e r hl⟩
  · exact .inl ⟨rfl, remOf_of_limit _ hl⟩

theorem skipZero_found (mx : Nat) (stream : List Pt) (count : Nat) {cur : Pt} (nxt : Pt) (h0 : cur.dur ≠ 0) :
    skipZero mx stream count cur nxt = { found := true, cur := cur, nxt := nxt, stream := stream, count := count } := by
  cases stream <;> exact if_pos h0

/-- the loop that skips events of zero ticks stops at the first two points of `dropZero` -/
theorem skipZero_spec {mx : Nat} {stream : List Pt} {count : Nat} {cur nxt : Pt} {sk : SkipResult}
    (h : skipZero mx stream count cur nxt = sk) :
    if sk.found then dropZero (cur :: nxt :: remOf mx stream count) = sk.cur :: sk.nxt :: remOf mx sk.stream sk.count
    else (dropZero (cur :: nxt :: remOf mx stream count)).length < 2 := by
  subst h
  have short : ∀ {cur nxt : Pt}, ¬ cur.dur ≠ 0 → (dropZero [cur, nxt]).length < 2 := fun {_ nxt} h0 => by
    rw [dropZero, if_pos (Decidable.of_not_not h0)]; exact Nat.lt_succ_of_le (dropZero_length [nxt])
  fun_induction skipZero mx stream count cur nxt with
  | case1 count cur nxt h0 => rw [dropZero, if_neg h0]; rfl
  | case2 count cur nxt h0 => rw [remOf_nil]; exact short h0
  | case3 e r count cur nxt h0 => rw [dropZero, if_neg h0]; rfl
  | case4 e r count cur nxt h0 hl => rw [remOf_of_limit _ hl]; exact short h0
  | case5 e r count cur nxt h0 hl ih =>
    rw [remOf_cons_of_not_limit e r (Bool.eq_false_iff.mpr hl), dropZero, if_pos (Decidable.of_not_not h0)]; exact ih

/-- the outcomes of the ticks from state `t` on are exactly `E` (cut at the run length) -/
def RunsTo (f : Rat → Rat) (t : Track) (E : List Outcome) : Prop := ∀ n, run f n t = E.take n

theorem runsTo_msg {f : Rat → Rat} {t t' : Track} {m : Msg} {E : List Outcome}
    (h : tick f t = { out := .msg m, track := t' }) (h' : RunsTo f t' E) : RunsTo f t (.msg m :: E)
  | 0 => rfl
  | n + 1 => by simp [run, h, Outcome.isMsg, h' n]

theorem runsTo_end {f : Rat → Rat} {t : Track} {o : Outcome} (h : (tick f t).out = o) (ho : o.isMsg = false) :
    RunsTo f t [o]
  | 0 => rfl
  | n + 1 => by simp [run, h, ho]

theorem runsTo_congr {f : Rat → Rat} {t t' : Track} {E : List Outcome} (h : tick f t = tick f t')
    (h' : RunsTo f t' E) : RunsTo f t E
  | 0 => rfl
  | n + 1 => by rw [← h' (n + 1), run, run, h]

theorem runsTo_segment (f : Rat → Rat) {a b : Pt} (hc : compat a b = true) (t : Track) {E : List Outcome}
    (hE : RunsTo f { t with seg := some (segAt f a b a.dur) } E) : ∀ k j : Nat, j + k = a.dur →
      RunsTo f { t with seg := some (segAt f a b j) }
        ((List.range' (j + 1) k).map (fun i => Outcome.msg (msgAt f a b i)) ++ E)
  | 0, j, h => by rw [Nat.add_zero] at h; subst h; exact hE
  | k + 1, j, h =>
    runsTo_msg (by simp only [tick, segAt_next f (h ▸ Nat.lt_add_of_pos_right k.succ_pos) hc])
      (runsTo_segment f hc t hE k (j + 1) ((Nat.succ_add_eq_add_succ j k).trans h))

theorem emit_segAt_zero (f : Rat → Rat) (t : Track) {a b : Pt} (hD : a.dur ≠ 0) :
    emit f t (segAt f a b 0) = tick f { t with seg := some (segAt f a b 0) } := by
  cases hc : compat a b
  · simp only [emit, tick, segAt_next_bad f (Nat.pos_of_ne_zero hD) hc]
  · simp only [emit, tick, segAt_next f (Nat.pos_of_ne_zero hD) hc]

/-- A tick that sets up the next segment, `c` being the point reached, is followed by `refSetup` of `c` and what the
    stream still delivers, provided the segment the set-up finds runs to its `refFrom` (`IH`). -/
theorem runsTo_setup (f : Rat → Rat) {first : Bool} {c : Pt} {t₀ t : Track}
    (h₀ : tick f t₀ = setupFrom f first c t)
    (IH : ∀ (a b : Pt) (t' : Track), dropZero (c :: t.rem) = a :: b :: t'.rem → kindsOK a b = true → t'.nxt = some b →
      RunsTo f { t' with seg := some (segAt f a b 0) } (refFrom f (a :: b :: t'.rem))) :
    RunsTo f t₀ (refSetup f first (c :: t.rem)) := by
  rcases getNext_rem t with ⟨hg, hr⟩ | ⟨e, s', hg, hr⟩
  · rw [hr, refSetup_short f first (Nat.lt_succ_of_le (dropZero_length [c]))]
    exact runsTo_end (by rw [h₀, setupFrom, hg]) rfl
  · rw [hr] at IH ⊢
    simp only [setupFrom, hg] at h₀
    generalize hsk : skipZero t.maxCount s' (t.count + 1) c e = sk at h₀
    have sp := skipZero_spec hsk
    cases hf : sk.found
    · rw [hf] at sp
      rw [refSetup_short f first sp]
      exact runsTo_end (by rw [h₀, hf]; rfl) rfl
    · rw [hf] at sp
      rw [refSetup_cons f first sp]
      cases hk : kindsOK sk.cur sk.nxt
      · exact runsTo_end (by rw [h₀, hf, if_pos (kindsOK_eq_false.mp hk)]; rfl) rfl
      · have hk' := mt kindsOK_eq_false.mpr (ne_false_of_eq_true hk)
        have ih := IH sk.cur sk.nxt
          { t with cur := some sk.cur, nxt := some sk.nxt, stream := sk.stream, count := sk.count } sp hk rfl
        simp only [hf, if_neg hk', Bool.not_true, Bool.false_eq_true, if_false] at h₀
        cases first
        · -- a later segment: the first value of the new `PDict` is discarded
          simp only [buildSeg_next, Bool.false_eq_true, if_false] at h₀
          rw [emit_segAt_zero f _ (dropZero_head sp)] at h₀
          exact runsTo_congr h₀ ih
        · simp only [emit, buildSeg_next, if_true] at h₀
          exact runsTo_msg h₀ ih

/-- from the tick after the one that reached `c`, with a segment to `d` ahead: the segment, then the rest (`n` bounds
    the points still to come: a set-up may skip several of them) -/
theorem runsTo_rest (f : Rat → Rat) (n : Nat) : ∀ (t : Track), t.rem.length < n → ∀ (c d : Pt),
    c.dur ≠ 0 → kindsOK c d = true → t.nxt = some d →
    RunsTo f { t with seg := some (segAt f c d 0) } (refFrom f (c :: d :: t.rem)) := by
  induction n with
  | zero => intro _ h; cases h
  | succ n ih =>
    intro t hlen c d hD hk hn
    rw [refFrom_cons₂, if_neg hD, hk]
    cases hc : compat c d
    · exact runsTo_end (by simp only [tick, segAt_next_bad f (Nat.pos_of_ne_zero hD) hc]) rfl
    · refine runsTo_segment f hc t ?_ c.dur 0 (Nat.zero_add _)
      have h₀ : tick f { t with seg := some (segAt f c d c.dur) } =
          setupFrom f false d { t with seg := some (segAt f c d c.dur) } := by
        simp only [tick, segAt_stop f hD hc, setup, hn]
      refine runsTo_setup f h₀ fun a b t' hdz => ih t' ?_ a b (dropZero_head hdz)
      have := dropZero_length (d :: t.rem)
      rw [show dropZero (d :: t.rem) = a :: b :: t'.rem from hdz] at this
      exact Nat.lt_of_lt_of_le (Nat.le_of_succ_le_succ this) (Nat.le_of_lt_succ hlen)

/-- The state machine produces exactly the reference trace from any state in which no segment is in progress
    and no event has been read ahead: a new track, a track that was restarted. -/
theorem runsTo_idle (f : Rat → Rat) (t : Track) (hs : t.seg = none) (hn : t.nxt = none) : RunsTo f t (ref f t.rem) := by
  rcases getNext_rem t with ⟨hg, hr⟩ | ⟨e, s', hg, hr⟩
  · rw [hr]; exact runsTo_end (by simp only [tick, hs, setup, hn, hg]) rfl
  · rw [hr]
    exact runsTo_setup f (first := true) (t := { t with stream := s', count := t.count + 1, nxt := some e, seg := none })
      (by simp only [tick, hs, setup, hn, hg])
      fun a b t' hdz => runsTo_rest f _ t' (Nat.lt_succ_self _) a b (dropZero_head hdz)

/-- The model is its reference: the outcomes of the first `n` ticks of a new track are the reference trace of the
    points `count` lets through, cut at `n`. Everything in `Props/C15.lean` is read off `ref`. -/
theorem trace_eq_ref (f : Rat → Rat) (pts : List Pt) (count n : Nat) :
    trace f pts count n = (ref f (eff count pts)).take n :=
  runsTo_idle f (Track.fresh pts count) rfl rfl n

def pt (P : List Pt) (i : Nat) : Pt := P.getD i default

@[simp] theorem pt_zero (a : Pt) (tl : List Pt) : pt (a :: tl) 0 = a := rfl
@[simp] theorem pt_succ (a : Pt) (tl : List Pt) (i : Nat) : pt (a :: tl) (i + 1) = pt tl i := rfl

theorem pt_eq_getElem {P : List Pt} {i : Nat} (h : i < P.length) : pt P i = P[i] := by
  rw [pt, List.getD_eq_getElem?_getD, List.getElem?_eq_getElem h]; rfl

theorem pt_append_left {P : List Pt} {i : Nat} (h : i < P.length) (Q : List Pt) : pt (P ++ Q) i = pt P i := by
  rw [pt, pt, List.getD_eq_getElem?_getD, List.getD_eq_getElem?_getD, List.getElem?_append_left h]

/-- ticks before point `i`: the sum of the durations of the points before it -/
def off (P : List Pt) (i : Nat) : Nat := ((P.take i).map Pt.dur).sum

theorem off_succ (a : Pt) (tl : List Pt) (i : Nat) : off (a :: tl) (i + 1) = a.dur + off tl i := by
  rw [off, List.take_succ_cons, List.map_cons, List.sum_cons]; rfl

theorem off_succ_eq (P : List Pt) (i : Nat) (h : i < P.length) : off P (i + 1) = off P i + (pt P i).dur := by
  rw [off, List.take_succ_eq_append_getElem h, List.map_append, List.sum_append, pt_eq_getElem h]
  simp [off]

theorem off_append_left {P : List Pt} {i : Nat} (h : i ≤ P.length) (Q : List Pt) : off (P ++ Q) i = off P i := by
  rw [off, off, List.take_append_of_le_length h]

/-- the domain of the property: every event is a control event, and no numeric control/channel field is
    followed by a non-numeric one -/
structure WF (P : List Pt) : Prop where
  kinds : ∀ i, i < P.length → (pt P i).kind = .control
  fields : ∀ i, i + 1 < P.length → compat (pt P i) (pt P (i + 1)) = true

theorem WF.pair {P : List Pt} (h : WF P) {i : Nat} (hi : i + 1 < P.length) :
    kindsOK (pt P i) (pt P (i + 1)) = true ∧ compat (pt P i) (pt P (i + 1)) = true :=
  ⟨kindsOK_eq_true.mpr ⟨h.kinds i (Nat.lt_of_succ_lt hi), h.kinds (i + 1) hi⟩, h.fields i hi⟩

theorem WF.tail {a : Pt} {tl : List Pt} (h : WF (a :: tl)) : WF tl :=
  ⟨fun i hi => h.kinds (i + 1) (Nat.succ_lt_succ hi), fun i hi => h.fields (i + 1) (Nat.succ_lt_succ hi)⟩

theorem segMsgs_length (f : Rat → Rat) (a b : Pt) : (segMsgs f a b).length = a.dur := by
  rw [segMsgs, List.length_map, List.length_range']

theorem segMsgs_get (f : Rat → Rat) (a b : Pt) {j : Nat} (h : j < a.dur) :
    (segMsgs f a b)[j]? = some (.msg (msgAt f a b (j + 1))) := by
  rw [segMsgs, List.getElem?_map, List.getElem?_range' h, Nat.one_mul, Nat.add_comm]; rfl

theorem refFrom_cons_ok (f : Rat → Rat) (a b : Pt) (r : List Pt) (h : kindsOK a b = true ∧ compat a b = true) :
    refFrom f (a :: b :: r) = segMsgs f a b ++ refFrom f (b :: r) := by
  rw [refFrom_cons₂, h.1, h.2]
  by_cases h0 : a.dur = 0
  · rw [if_pos h0, segMsgs, h0]; rfl
  · exact if_neg h0

/-- the messages of all segments, in order -/
def allMsgs (f : Rat → Rat) : List Pt → List Outcome
  | [] => []
  | a :: tl =>
    match tl with
    | [] => []
    | b :: _ => segMsgs f a b ++ allMsgs f tl

theorem allMsgs_cons₂ (f : Rat → Rat) (a b : Pt) (r : List Pt) :
    allMsgs f (a :: b :: r) = segMsgs f a b ++ allMsgs f (b :: r) := rfl

theorem allMsgs_length (f : Rat → Rat) : ∀ P : List Pt, (allMsgs f P).length = off P (P.length - 1)
  | [] | [_] => rfl
  | a :: b :: r => by
    rw [allMsgs_cons₂, List.length_append, segMsgs_length, allMsgs_length f (b :: r)]
    exact (off_succ a (b :: r) r.length).symm

theorem allMsgs_get (f : Rat → Rat) : ∀ (P : List Pt) (i j : Nat), i + 1 < P.length → j < (pt P i).dur →
    (allMsgs f P)[off P i + j]? = some (.msg (msgAt f (pt P i) (pt P (i + 1)) (j + 1)))
  | [], _, _, hi, _ | [_], _, _, hi, _ => nomatch hi
  | a :: b :: r, 0, j, _, h => by
    rw [show off (a :: b :: r) 0 = 0 from rfl, Nat.zero_add, allMsgs_cons₂,
      List.getElem?_append_left (by rw [segMsgs_length]; exact h)]
    exact segMsgs_get f a b h
  | a :: b :: r, i + 1, j, hi, h => by
    rw [allMsgs_cons₂, off_succ, Nat.add_assoc,
      List.getElem?_append_right (by rw [segMsgs_length]; exact Nat.le_add_right _ _), segMsgs_length,
      Nat.add_sub_cancel_left]
    exact allMsgs_get f (b :: r) i j (Nat.lt_of_succ_lt_succ hi) h

theorem allMsgs_all_msg (f : Rat → Rat) : ∀ (P : List Pt) (o : Outcome), o ∈ allMsgs f P → ∃ m, o = .msg m
  | [], _, h | [_], _, h => nomatch h
  | a :: b :: r, o, h => by
    rcases List.mem_append.mp h with h | h
    · obtain ⟨j, _, hj⟩ := List.mem_map.mp h
      exact ⟨_, hj.symm⟩
    · exact allMsgs_all_msg f (b :: r) o h

theorem refFrom_append (f : Rat → Rat) : ∀ (pre : List Pt) (a : Pt) (tl : List Pt), WF (pre ++ [a]) →
    refFrom f (pre ++ a :: tl) = allMsgs f (pre ++ [a]) ++ refFrom f (a :: tl)
  | [], _, _, _ => rfl
  | [p], a, tl, h => by
    rw [List.singleton_append, refFrom_cons_ok f p a tl (h.pair (i := 0) (Nat.succ_lt_succ (Nat.succ_pos _)))]
    exact congrArg (· ++ _) (List.append_nil _).symm
  | p :: q :: pre, a, tl, h => by
    rw [List.cons_append, List.cons_append, refFrom_cons_ok f p q _ (h.pair (i := 0) (Nat.succ_lt_succ (Nat.succ_pos _))),
      ← List.cons_append, refFrom_append f (q :: pre) a tl h.tail, ← List.append_assoc]; rfl

theorem firstIdx_zero_dur : ∀ (L : List Pt) (k : Nat), k < firstIdx L → (pt L k).dur = 0
  | a :: tl, k, hk => by
    rw [firstIdx] at hk
    split at hk
    · cases k with
      | zero => assumption
      | succ k => exact firstIdx_zero_dur tl k (Nat.lt_of_succ_lt_succ hk)
    · cases hk

theorem firstIdx_le (L : List Pt) (i : Nat) (hd : (pt L i).dur ≠ 0) : firstIdx L ≤ i :=
  Nat.le_of_not_lt fun h => hd (firstIdx_zero_dur L i h)

theorem firstIdx_dur (L : List Pt) (h : firstIdx L < L.length) : (pt L (firstIdx L)).dur ≠ 0 :=
  dropZero_head (by rw [dropZero_eq_drop, List.drop_eq_getElem_cons h, pt_eq_getElem h])

theorem off_firstIdx (L : List Pt) : off L (firstIdx L) = 0 := by
  induction L with
  | nil => rfl
  | cons a tl ih =>
    rw [firstIdx]
    split
    · rename_i h0; rw [off_succ, h0, ih]
    · rfl

/-- a segment can be played: some point with a successor has a non-zero duration -/
def Playable (P : List Pt) : Prop := ∃ i, i + 1 < P.length ∧ (pt P i).dur ≠ 0

theorem dropZero_of_playable {P : List Pt} (h : Playable P) :
    firstIdx P + 1 < P.length ∧
      dropZero P = pt P (firstIdx P) :: pt P (firstIdx P + 1) :: P.drop (firstIdx P + 2) := by
  obtain ⟨i, hi, hd⟩ := h
  have hlt : firstIdx P + 1 < P.length := Nat.lt_of_le_of_lt (Nat.succ_le_succ (firstIdx_le P i hd)) hi
  refine ⟨hlt, ?_⟩
  rw [dropZero_eq_drop, List.drop_eq_getElem_cons (Nat.lt_of_succ_lt hlt), List.drop_eq_getElem_cons hlt,
    pt_eq_getElem, pt_eq_getElem]

theorem not_playable_short {P : List Pt} (h : ¬ Playable P) : (dropZero P).length < 2 := by
  rw [dropZero_eq_drop, List.length_drop]
  refine Nat.lt_of_not_le fun hc => h ?_
  have hlt : firstIdx P + 1 < P.length := Nat.lt_sub_iff_add_lt'.mp hc
  exact ⟨firstIdx P, hlt, firstIdx_dur P (Nat.lt_of_succ_lt hlt)⟩

theorem ref_of_playable (f : Rat → Rat) {P : List Pt} (hpl : Playable P)
    (hk : kindsOK (pt P (firstIdx P)) (pt P (firstIdx P + 1)) = true) :
    ref f P = .msg (firstMsg (pt P (firstIdx P))) :: refFrom f P := by
  rw [ref_of_cons f (dropZero_of_playable hpl).2, hk, ← (dropZero_of_playable hpl).2, refFrom_dropZero]; rfl

/-- the general shape of the reference trace: if everything up to the point `a` is in the property's
    domain and a segment is played before `a`, the trace is the first point, then the messages of all
    segments up to `a`, then whatever follows the arrival at `a`. -/
theorem ref_split (f : Rat → Rat) {P pre : List Pt} {a : Pt} {tl : List Pt} (hP : P = pre ++ a :: tl)
    (hwf : WF (pre ++ [a])) (hplay : ∃ i, i < pre.length ∧ (pt P i).dur ≠ 0) :
    ref f P = .msg (firstMsg (pt P (firstIdx P))) :: (allMsgs f (pre ++ [a]) ++ refFrom f (a :: tl)) := by
  obtain ⟨i, hi, hd⟩ := hplay
  have hP' : P = (pre ++ [a]) ++ tl := by rw [hP, List.append_assoc]; rfl
  have hlen : pre.length + 1 ≤ P.length := by rw [hP', List.length_append, List.length_append]; exact Nat.le_add_right _ _
  have hfi : firstIdx P + 1 < (pre ++ [a]).length := by
    rw [List.length_append]; exact Nat.succ_lt_succ (Nat.lt_of_le_of_lt (firstIdx_le P i hd) hi)
  have hk := (hwf.pair hfi).1
  rw [← pt_append_left (Nat.lt_of_succ_lt hfi) tl, ← pt_append_left hfi tl, ← hP'] at hk
  rw [ref_of_playable f ⟨i, Nat.lt_of_lt_of_le (Nat.succ_lt_succ hi) hlen, hd⟩ hk, hP, refFrom_append f pre a tl hwf]

/-- in the property's domain: first point, the messages of all segments, then the track finishes -/
theorem ref_wf (f : Rat → Rat) {P : List Pt} (hwf : WF P) (hpl : Playable P) :
    ref f P = .msg (firstMsg (pt P (firstIdx P))) :: (allMsgs f P ++ [.finished]) := by
  obtain ⟨hlt, _⟩ := dropZero_of_playable hpl
  rw [ref_of_playable f hpl (hwf.pair hlt).1]
  obtain rfl | ⟨pre, a, rfl⟩ := List.eq_nil_or_concat' P
  · cases hlt
  · rw [refFrom_append f pre a [] hwf]; rfl

theorem not_msg_mem_singleton {m : Msg} {o : Outcome} (ho : o.isMsg = false) (h : Outcome.msg m ∈ [o]) : False := by
  cases List.mem_singleton.mp h; cases ho

theorem refFrom_msgs (f : Rat → Rat) (m : Msg) (L : List Pt) : Outcome.msg m ∈ refFrom f L →
    ∃ i, i + 1 < L.length ∧ (pt L i).kind = .control ∧ (pt L (i + 1)).kind = .control ∧
      ∃ j, 1 ≤ j ∧ j ≤ (pt L i).dur ∧ m = msgAt f (pt L i) (pt L (i + 1)) j := by
  fun_induction refFrom f L with
  | case1 | case2 | case4 | case5 => exact fun h => (not_msg_mem_singleton rfl h).elim
  | case3 a b r h0 ih => exact fun h => let ⟨i, h1, h2⟩ := ih h; ⟨i + 1, Nat.succ_lt_succ h1, h2⟩
  | case6 a b r h0 hk hc ih =>
    intro h
    rcases List.mem_append.mp h with h | h
    · obtain ⟨j, hj, hm⟩ := List.mem_map.mp h
      rw [List.mem_range'_1] at hj
      obtain ⟨k1, k2⟩ := kindsOK_eq_true.mp (by simpa using hk)
      exact ⟨0, Nat.succ_lt_succ (Nat.succ_pos _), k1, k2, j, hj.1, Nat.lt_one_add_iff.mp hj.2, (Outcome.msg.inj hm).symm⟩
    · exact let ⟨i, h1, h2⟩ := ih h; ⟨i + 1, Nat.succ_lt_succ h1, h2⟩

theorem ref_msgs (f : Rat → Rat) (P : List Pt) (m : Msg) (h : Outcome.msg m ∈ ref f P) :
    ∃ i, i + 1 < P.length ∧ (pt P i).kind = .control ∧ (pt P (i + 1)).kind = .control ∧ (pt P i).dur ≠ 0 ∧
      (m = firstMsg (pt P i) ∨ ∃ j, 1 ≤ j ∧ j ≤ (pt P i).dur ∧ m = msgAt f (pt P i) (pt P (i + 1)) j) := by
  by_cases hpl : Playable P
  · obtain ⟨hlt, hdz⟩ := dropZero_of_playable hpl
    cases hk : kindsOK (pt P (firstIdx P)) (pt P (firstIdx P + 1))
    · rw [ref_of_cons f hdz, hk] at h; exact (not_msg_mem_singleton rfl h).elim
    · rw [ref_of_playable f hpl hk] at h
      rcases List.mem_cons.mp h with h | h
      · exact ⟨firstIdx P, hlt, (kindsOK_eq_true.mp hk).1, (kindsOK_eq_true.mp hk).2,
          firstIdx_dur P (Nat.lt_of_succ_lt hlt), .inl (Outcome.msg.inj h)⟩
      · obtain ⟨i, h1, h2, h3, j, hj1, hj2, hm⟩ := refFrom_msgs f m P h
        exact ⟨i, h1, h2, h3, Nat.ne_of_gt (Nat.lt_of_lt_of_le hj1 hj2), .inr ⟨j, hj1, hj2, hm⟩⟩
  · rw [ref_of_short f (not_playable_short hpl)] at h; exact (not_msg_mem_singleton rfl h).elim

theorem ratio_self {D : Nat} (hD : D ≠ 0) : ratio D D = 1 :=
  div_self (Nat.cast_ne_zero.mpr hD)

theorem hull (a b t : Rat) (h0 : 0 ≤ t) (h1 : t ≤ 1) :
    min a b ≤ a + (b - a) * t ∧ a + (b - a) * t ≤ max a b := by
  rcases le_total a b with h | h
  · rw [min_eq_left h, max_eq_right h]
    exact ⟨le_add_of_nonneg_right (mul_nonneg (sub_nonneg.2 h) h0),
      le_sub_iff_add_le'.mp (mul_le_of_le_one_right (sub_nonneg.2 h) h1)⟩
  · rw [min_eq_right h, max_eq_left h]
    exact ⟨sub_le_iff_le_add'.mp (le_mul_of_le_one_right (sub_nonpos.2 h) h1),
      add_le_of_nonpos_right (mul_nonpos_of_nonpos_of_nonneg (sub_nonpos.2 h) h0)⟩

/-- under an easing that stays in `[0, 1]` every message of a segment lies between the segment's two end points -/
theorem msgAt_value_hull {f : Rat → Rat} (hf : ∀ x, 0 ≤ x → x ≤ 1 → 0 ≤ f x ∧ f x ≤ 1) (a b : Pt) {j : Nat}
    (hj : j ≤ a.dur) :
    min a.value b.value ≤ (msgAt f a b j).value ∧ (msgAt f a b j).value ≤ max a.value b.value :=
  have ⟨f0, f1⟩ := hf (ratio j a.dur) (div_nonneg (Nat.cast_nonneg j) (Nat.cast_nonneg _))
    (div_le_one_of_le₀ (Nat.cast_le.mpr hj) (Nat.cast_nonneg _))
  hull _ _ _ f0 f1

theorem trace_mem {f : Rat → Rat} {pts : List Pt} {count n k : Nat} {o : Outcome}
    (h : (trace f pts count n)[k]? = some o) : o ∈ ref f (eff count pts) :=
  List.mem_of_mem_take (trace_eq_ref f pts count n ▸ List.mem_of_getElem? h)

theorem trace_wf (f : Rat → Rat) {pts : List Pt} {count n k : Nat} (hwf : WF (eff count pts))
    (hpl : Playable (eff count pts)) (hn : k < n) :
    (trace f pts count n)[k]? =
      (.msg (firstMsg (pt (eff count pts) (firstIdx (eff count pts)))) :: (allMsgs f (eff count pts) ++ [.finished]))[k]? := by
  rw [trace_eq_ref, ref_wf f hwf hpl, List.getElem?_take, if_pos hn]

/-- the values after the first one: one step table per target, each starting from the previous target -/
def curve (f : Rat → Rat) (D : Nat) : Rat → List Rat → List Rat
  | _, [] => []
  | e, t :: rest => stepTable f e t D ++ curve f D t rest

theorem stepTable_getLast (f : Rat → Rat) (hf1 : f 1 = 1) (e t : Rat) {D : Nat} (hD : D ≠ 0) :
    (stepTable f e t D).getLast? = some t := by
  obtain ⟨k, rfl⟩ := Nat.exists_eq_succ_of_ne_zero hD
  simp [stepTable, List.range_succ, ratio_self (Nat.succ_ne_zero k), hf1]

theorem getD_of_getLast? {l : List Rat} {e : Rat} (h : l.getLast? = some e) {i : Nat} (hi : i + 1 = l.length) :
    l.getD i 0 = e := by
  rw [List.getLast?_eq_getElem?, ← hi, Nat.add_sub_cancel] at h
  rw [List.getD_eq_getElem?_getD, h]; rfl

theorem PI.take_congr (f : Rat → Rat) {p q : PI} (h : p.next f = q.next f) : ∀ n, PI.take f n p = PI.take f n q
  | 0 => rfl
  | n + 1 => by rw [PI.take, PI.take, h]

/-- `PInterpolate` from any state it can be in: the rest of the step table, then one table per value the wrapped
    pattern still has; `e` is the value the next table starts from (the last one of the present table). -/
theorem pi_take_general (f : Rat → Rat) (hf1 : f 1 = 1) :
    ∀ (n : Nat) (p : PI) (e : Rat), p.steps ≠ 0 → p.pos ≤ p.table.length → p.table.getLast? = some e →
      (p.pos = p.table.length → p.value = e) →
      PI.take f n p = (p.table.drop p.pos ++ curve f p.steps e p.src).take n := by
  intro n
  induction n with
  | zero => intros; rfl
  | succ n ih =>
    have replay : ∀ (p : PI) (e : Rat), p.steps ≠ 0 → p.pos < p.table.length → p.table.getLast? = some e →
        PI.take f (n + 1) p = (p.table.drop p.pos ++ curve f p.steps e p.src).take (n + 1) := by
      intro p e hD hlt hlast
      rw [List.drop_eq_getElem_cons hlt, List.cons_append, List.take_succ_cons,
        ← ih { p with value := p.table.getD p.pos 0, pos := p.pos + 1 } e hD hlt hlast (getD_of_getLast? hlast)]
      simp [PI.take, PI.next, hlt]
    intro p e hD hpos hlast hval
    rcases Nat.lt_or_eq_of_le hpos with hlt | hp
    · exact replay p e hD hlt hlast
    · cases hsrc : p.src with
      | nil => simp [PI.take, PI.next, hp, hD, hsrc, curve]
      | cons t rest =>
        -- the table is used up: the next one is built and replayed from its start
        have hlen : 0 < (stepTable f e t p.steps).length := stepTable_length f e t _ ▸ Nat.pos_of_ne_zero hD
        have : p.next f = ({ p with table := stepTable f e t p.steps, pos := 0, src := rest } : PI).next f := by
          simp [PI.next, hp, hD, hsrc, hval hp, hlen]
        rw [PI.take_congr f this, replay { p with table := stepTable f e t p.steps, pos := 0, src := rest } t hD hlen
          (stepTable_getLast f hf1 e t hD), hp, List.drop_length]
        rfl

end IsobarV.Interp
