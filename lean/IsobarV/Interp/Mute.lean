/-
C15 (with C06's "a muted track emits no further events", for interpolated tracks) — a muted interpolating track
is silent, not paused.

`Track.mute()` only sets `is_muted`; the flag is read in `Track.perform_event` (`if self.is_muted: return`), i.e.
AFTER the interpolating branch of `Track.tick` has advanced its patterns.  In the model of that branch
(`Interp/Model.lean`) a tick of a muted track is therefore the same state transition, and only what the
output device receives differs (`hear`).  `runMuted` is the executable form (one mute flag per tick: `mute()` /
`unmute()` are called between ticks); the theorems say that for EVERY pattern of mute flags the device
hears exactly the never-muted run masked by the flags: nothing on a muted tick, and on every other tick —
before, between and after muted stretches — the message the never-muted track sends on that very tick, so
every control point is still hit on its own tick and the last message is the last control point.
-/
import IsobarV.Interp.Model

namespace IsobarV.Interp

/-- what the output device gets from one tick -/
inductive Heard
  | msg (m : Msg)            -- one `control()` call
  | silent                   -- the event was computed but `perform_event` returned at `is_muted`
  | ended (o : Outcome)      -- the tick finished the track or raised: no call, nothing follows
  deriving DecidableEq, Repr, Inhabited

/-- `perform_event` with `is_muted = m` applied to the outcome of the tick -/
def hear (m : Bool) : Outcome → Heard
  | .msg x => if m then .silent else .msg x
  | o => .ended o

/-- consecutive ticks, `ms[k]` = the track's `is_muted` during tick `k` -/
def runMuted (f : Rat → Rat) : List Bool → Track → List Heard
  | [], _ => []
  | m :: ms, t =>
    let r := tick f t
    hear m r.out :: (if r.out.isMsg then runMuted f ms r.track else [])

/-- **Muting masks, it does not pause**: whatever the pattern of mute flags, the device hears the never-muted run
    of the same track, tick for tick, with the muted ticks blanked. -/
theorem runMuted_eq_masked (f : Rat → Rat) (ms : List Bool) :
    ∀ t : Track, runMuted f ms t = List.zipWith hear ms (run f ms.length t) := by
  induction ms with
  | nil => intro t; rfl
  | cons m ms ih =>
    intro t
    rw [runMuted, List.length_cons, run, List.zipWith_cons_cons]
    split
    · rw [ih]
    · rw [List.zipWith_nil_right]

theorem length_run_le (f : Rat → Rat) : ∀ (n : Nat) (t : Track), (run f n t).length ≤ n
  | 0, _ => Nat.le_refl 0
  | n + 1, t => by
    rw [run]
    split
    · exact Nat.succ_le_succ (length_run_le f n _)
    · exact Nat.succ_le_succ (Nat.zero_le n)

theorem length_runMuted (f : Rat → Rat) (ms : List Bool) (t : Track) :
    (runMuted f ms t).length = (run f ms.length t).length := by
  rw [runMuted_eq_masked, List.length_zipWith, Nat.min_eq_right (length_run_le f _ t)]

theorem hear_true_ne_msg (o : Outcome) (x : Msg) : hear true o ≠ .msg x := by
  cases o <;> nofun

/-- **A muted track emits nothing**: on a tick whose flag is set the device gets no call … -/
theorem muted_tick_is_silent (f : Rat → Rat) (ms : List Bool) (t : Track) (k : Nat) (hm : ms[k]? = some true)
    (h : Heard) (hk : (runMuted f ms t)[k]? = some h) : ∀ x, h ≠ .msg x := by
  rw [runMuted_eq_masked, List.getElem?_zipWith, hm] at hk
  match (run f ms.length t)[k]?, hk with
  | some o, rfl => exact hear_true_ne_msg o

/-- … **and an unmuted tick carries the curve's value for that tick**: what the never-muted track sends on
    tick `k` is what the device hears on tick `k`, however long the track was muted before. -/
theorem unmuted_tick_hears_the_curve (f : Rat → Rat) (ms : List Bool) (t : Track) (k : Nat) (hm : ms[k]? = some false)
    (o : Outcome) (ho : (run f ms.length t)[k]? = some o) :
    (runMuted f ms t)[k]? = some (hear false o) := by
  rw [runMuted_eq_masked, List.getElem?_zipWith, hm, ho]

theorem hear_false_msg (x : Msg) : hear false (.msg x) = .msg x := rfl

theorem runMuted_never (f : Rat → Rat) (n : Nat) (t : Track) :
    runMuted f (List.replicate n false) t = (run f n t).map (hear false) := by
  induction n generalizing t with
  | zero => rfl
  | succ n ih =>
    rw [List.replicate_succ, runMuted, run, List.map_cons]
    split
    · rw [ih]
    · rfl

/-- a curve 0 → 8 → 4 of 4 + 2 ticks, muted on ticks 1..3: ticks 0, 4, 5, 6 are heard with the values of those ticks
    (the control point 8 on its own tick 4, the last point 4 on tick 6), ticks 1, 2, 3 are silent. -/
example :
    runMuted linear [false, true, true, true, false, false, false, false]
      (Track.fresh [⟨.control, 4, 0, .num 7, .num 0⟩, ⟨.control, 2, 8, .num 7, .num 0⟩, ⟨.control, 1, 4, .num 7, .num 0⟩] 0) =
    [.msg ⟨.num 7, 0, .num 0⟩, .silent, .silent, .silent, .msg ⟨.num 7, 8, .num 0⟩, .msg ⟨.num 7, 6, .num 0⟩,
     .msg ⟨.num 7, 4, .num 0⟩, .ended .finished] := by decide +kernel

end IsobarV.Interp
