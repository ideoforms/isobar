/-
C05 / C15 — an interpolating track that is updated or restarted begins a new interpolation (fix 5de958e).

`Track.start()` replaces the event stream and — since the fix — drops the interpolation segment in
progress and the event read ahead (`next_event = None`, `interpolating_event = PSequence([], 0)`).  In the
model of the interpolating branch of `Track.tick` (`Interp/Model.lean`) that is `Track.start`.  Theorem:
from the tick of the switch on, the track's outcomes are those of a NEW track of the new stream (same
event counters) — nothing of the old stream, whatever state the old interpolation was in.
-/
import IsobarV.Interp.Model

namespace IsobarV.Interp

/-- `Track.start(events)` on an interpolating track (after fix 5de958e). -/
def Track.start (t : Track) (pts : List Pt) : Track :=
  { t with stream := pts, nxt := none, seg := none }

/-- The simulation relation of this file: two tracks agree on the state the interpolating `tick` reads, which is
    everything but `current_event` and `is_finished` — those it only writes. `tick` gives related tracks the same
    outcome and related successors (`tick_sim`), and `start` makes any track related to a new one. -/
def Sim (a b : Track) : Prop :=
  a.stream = b.stream ∧ a.count = b.count ∧ a.maxCount = b.maxCount ∧ a.nxt = b.nxt ∧ a.seg = b.seg

theorem Sim.refl (a : Track) : Sim a a := ⟨rfl, rfl, rfl, rfl, rfl⟩

theorem Sim.exists {a b : Track} (h : Sim a b) :
    ∃ c fn, a = { b with cur := c, finished := fn } := by
  obtain ⟨s, k, mx, cu, nx, sg, fn⟩ := a
  obtain ⟨rfl, rfl, rfl, rfl, rfl⟩ := h
  exact ⟨cu, fn, rfl⟩

theorem getNext_frame (t : Track) (c : Option Pt) (fn : Bool) :
    ({ t with cur := c, finished := fn } : Track).getNext =
      t.getNext.map fun g => { g with track := { g.track with cur := c, finished := fn } } := by
  unfold Track.getNext
  dsimp only
  split
  · rfl
  · split <;> rfl

theorem emit_sim (f : Rat → Rat) {a b : Track} (s : Seg) (h : Sim a b) :
    (emit f a s).out = (emit f b s).out ∧ Sim (emit f a s).track (emit f b s).track := by
  obtain ⟨h1, h2, h3, h4, _⟩ := h
  unfold emit
  dsimp only
  split <;> exact ⟨rfl, h1, h2, h3, h4, rfl⟩

theorem setupFrom_sim (f : Rat → Rat) (first : Bool) (c : Pt) {a b : Track} (h : Sim a b) :
    (setupFrom f first c a).out = (setupFrom f first c b).out ∧
    Sim (setupFrom f first c a).track (setupFrom f first c b).track := by
  obtain ⟨cu, fn, rfl⟩ := h.exists
  unfold setupFrom
  rw [getNext_frame]
  cases b.getNext with
  | none => exact ⟨rfl, Sim.refl _⟩
  | some g =>
    dsimp only [Option.map]
    generalize skipZero g.track.maxCount g.track.stream g.track.count c g.ev = sk
    by_cases h1 : (!sk.found) = true
    · rw [if_pos h1, if_pos h1]; exact ⟨rfl, Sim.refl _⟩
    rw [if_neg h1, if_neg h1]
    by_cases h2 : sk.cur.kind ≠ .control ∨ sk.nxt.kind ≠ .control
    · rw [if_pos h2, if_pos h2]; exact ⟨rfl, rfl, rfl, rfl, rfl, rfl⟩
    rw [if_neg h2, if_neg h2]
    cases first
    · rw [if_neg Bool.false_ne_true, if_neg Bool.false_ne_true]
      cases (Seg.next f (buildSeg sk.cur sk.nxt)).out with
      | msg _ => exact emit_sim f _ ⟨rfl, rfl, rfl, rfl, rfl⟩
      | _ => exact ⟨rfl, rfl, rfl, rfl, rfl, rfl⟩
    · exact emit_sim f _ ⟨rfl, rfl, rfl, rfl, rfl⟩

theorem setup_sim (f : Rat → Rat) {a b : Track} (h : Sim a b) :
    (setup f a).out = (setup f b).out ∧ Sim (setup f a).track (setup f b).track := by
  obtain ⟨cu, fn, rfl⟩ := h.exists
  unfold setup
  rw [getNext_frame]
  obtain ⟨s, k, mx, cu', nx, sg, fn'⟩ := b
  cases nx with
  | some n => exact setupFrom_sim f false n ⟨rfl, rfl, rfl, rfl, rfl⟩
  | none =>
    dsimp only
    cases Track.getNext _ with
    | none => exact ⟨rfl, rfl, rfl, rfl, rfl, rfl⟩
    | some g => exact setupFrom_sim f true g.ev ⟨rfl, rfl, rfl, rfl, rfl⟩

theorem tick_sim (f : Rat → Rat) {a b : Track} (h : Sim a b) :
    (tick f a).out = (tick f b).out ∧ Sim (tick f a).track (tick f b).track := by
  obtain ⟨cu, fn, rfl⟩ := h.exists
  obtain ⟨s, k, mx, cu', nx, sg, fn'⟩ := b
  unfold tick
  cases sg with
  | none => exact setup_sim f ⟨rfl, rfl, rfl, rfl, rfl⟩
  | some sg =>
    dsimp only
    cases (sg.next f).out with
    | stop => exact setup_sim f ⟨rfl, rfl, rfl, rfl, rfl⟩
    | _ => exact ⟨rfl, rfl, rfl, rfl, rfl, rfl⟩

theorem run_sim (f : Rat → Rat) (n : Nat) : ∀ {a b : Track}, Sim a b → run f n a = run f n b := by
  induction n with
  | zero => intro a b _; rfl
  | succ n ih =>
    intro a b h
    obtain ⟨ho, hs⟩ := tick_sim f h
    rw [run, run, ho, ih hs]

/-- **From the tick of the switch on, only the new stream**: whatever the updated track was doing — in the
    middle of a segment, between two, finished — after `start(pts)` its outcomes, for any number of ticks,
    are those of a new track of `pts` with the same event counters. -/
theorem start_plays_only_the_new_stream (f : Rat → Rat) (t : Track) (pts : List Pt) (n : Nat) :
    run f n (t.start pts) = run f n { Track.fresh pts t.maxCount with count := t.count } :=
  run_sim f n ⟨rfl, rfl, rfl, rfl, rfl⟩

/-- … in particular the old segment and the old look-ahead event are irrelevant: two tracks that differ only in
    them behave alike after the same `start`. -/
theorem start_forgets_the_old_interpolation (f : Rat → Rat) (t : Track) (seg : Option Seg) (nxt cur : Option Pt)
    (pts : List Pt) (n : Nat) :
    run f n (({ t with seg := seg, nxt := nxt, cur := cur } : Track).start pts) = run f n (t.start pts) :=
  run_sim f n ⟨rfl, rfl, rfl, rfl, rfl⟩

end IsobarV.Interp
